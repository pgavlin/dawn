/-!
# Model of `cache.get` / `cache.once` (/repo/cache.go) — property C20

An interleaving transition system. Any number of caller threads (`Tid`), each with a program: the list of
`once(key, callable)` calls it makes one after the other; the callable of a call either returns a value or
fails (`Outcome`). One `next` step is one statement of the Go code:

```
once:  if v, ok := c.get(key); ok { return v, nil }     start → rheld → rdone r → (retv (some v) | wlock)
       c.m.Lock(); defer c.m.Unlock()                    wlock → wheld            (blocked while a writer or readers hold)
       if v, ok := c.entries[key]; ok { return v, nil }  wheld → holding (some v) | miss
       v, err := starlark.Call(thread, function, …)      miss  → callok v | holding none
       if err != nil { return nil, err }
       c.entries[key] = v                                callok v → holding (some v)
       return v, nil                                     holding r → retv r  (deferred Unlock) → start (returned)
get:   c.m.RLock(); defer c.m.RUnlock()                  start → rheld            (blocked while a writer holds)
       v, ok := c.entries[key]; return v, ok             rheld → rdone r → …      (deferred RUnlock)
```

`sync.RWMutex` is a reader count and a writer flag (Go additionally makes new readers wait behind a *pending*
writer; that only removes interleavings, so every Go behaviour is a behaviour of this model).
Ghost state (not in the Go code, used to state the property): `okCalls k` — the values returned by the
successful invocations of callables for key `k`, `failCalls k`, and `rets` — every return of `once`.
Core Lean only.
-/
namespace Dawn.Cache

abbrev Key := Nat
abbrev Val := Nat
abbrev Tid := Nat

/-- what the callable handed to one `once` call does if it is invoked -/
inductive Outcome where
  | ok (v : Val)
  | fail
deriving DecidableEq, Repr

/-- one call `cache.once(key, callable)` -/
structure Op where
  key : Key
  out : Outcome
deriving DecidableEq, Repr

inductive PC where
  | start                      -- no statement of the current call executed yet: about to `c.m.RLock()` in `get`
  | rheld                      -- `get`: holds the read lock
  | rdone (r : Option Val)     -- `get`: has read `entries[key]`, still holds the read lock
  | wlock                      -- fast path missed: about to `c.m.Lock()`
  | wheld                      -- holds the writer lock: about to re-check `entries[key]`
  | miss                       -- re-check missed: about to `starlark.Call`
  | callok (v : Val)           -- the callable returned `v`: about to store
  | holding (r : Option Val)   -- about to run the deferred `Unlock`; will return `r` (`none` = the callable's error)
  | retv (r : Option Val)      -- lock released: about to return `r`
deriving DecidableEq, Repr

/-- The statements of `get` and `once` in source order, as the tags `extract/cache` gives them; the program counter
above follows exactly this order (`Dawn/Ties/Cache.lean` compares it with the source on every run):
`rlock`/`defer-runlock`/`read`/`return` are `start → rheld → rdone → (RUnlock)`; `if-get-hit-return` is `afterGet`;
`lock`, `defer-unlock` are `wlock → wheld` and the `holding → retv` step that every return path takes;
`if-entries-hit-return` is `afterRecheck`; `call`, `if-err-return` are `miss → callok | holding none`; `store`,
`return` are `callok → holding (some v) → retv`. -/
def getShape : List String := ["rlock", "defer-runlock", "read", "return"]
def onceShape : List String :=
  ["if-get-hit-return", "lock", "defer-unlock", "if-entries-hit-return", "call", "if-err-return", "store", "return"]

/-- `Freeze`: Starlark freezes a module-level `cache = Cache()` when its module has finished loading, so every target
body sees a frozen cache. The model has no "frozen" flag: freezing is the identity on the state, `(*cache).Freeze` has an
empty body and the struct has no field besides the mutex, the entries and the bound method that `once` could consult
(`Dawn/Ties/Cache.lean` compares both with the source on every run). -/
def freezeBody : String := "(block)"
def cacheFields : List String := ["m", "entries", "onceM"]

/-- The model's `entries` only ever grows (`C20_entries_monotone`) and is all the state there is: there is no capacity, no
eviction and no state outside the cache value (per thread, per package). In cache.go: no call of `clear`/`delete`, no
constant, and the only package-level variable is the `Cache` builtin itself. -/
def entryRemovals : List String := []
def packageVars : List String := ["builtin_cache"]
def packageConsts : List String := []

def upd {α : Type} (f : Nat → α) (i : Nat) (v : α) : Nat → α := fun x => if x = i then v else f x

@[simp] theorem upd_same {α} (f : Nat → α) (i v) : upd f i v i = v := by simp [upd]
@[simp] theorem upd_other {α} (f : Nat → α) (i v x) (h : x ≠ i) : upd f i v x = f x := by simp [upd, h]

structure State where
  readers : Nat                          -- RWMutex: number of read-lock holders
  writer : Bool                          -- RWMutex: write-locked
  entries : Key → Option Val             -- c.entries
  pc : Tid → PC
  prog : Tid → List Op                   -- remaining calls of each thread; the head is the call in progress
  -- ghost
  rset : List Tid                        -- who holds the read lock
  okCalls : Key → List Val               -- results of the successful callable invocations, newest first
  failCalls : Key → Nat
  rets : List (Tid × Key × Option Val)   -- every return of `once`, newest first (`none` = error)

def init (prog : Tid → List Op) : State :=
  { readers := 0, writer := false, entries := fun _ => none, pc := fun _ => .start, prog := prog,
    rset := [], okCalls := fun _ => [], failCalls := fun _ => 0, rets := [] }

/-- `if v, ok := c.get(key); ok { return v, nil }` -/
def afterGet : Option Val → PC
  | some v => .retv (some v)
  | none => .wlock

/-- `if v, ok := c.entries[key]; ok { return v, nil }` under the writer lock -/
def afterRecheck : Option Val → PC
  | some v => .holding (some v)
  | none => .miss

/-- the step of thread `t`, if it has one (`none`: finished, or blocked on the lock) -/
def next (s : State) (t : Tid) : Option State :=
  match s.prog t with
  | [] => none
  | op :: rest =>
    match s.pc t with
    | .start =>
      if s.writer then none
      else some { s with readers := s.readers + 1, rset := t :: s.rset, pc := upd s.pc t .rheld }
    | .rheld => some { s with pc := upd s.pc t (.rdone (s.entries op.key)) }
    | .rdone r =>
      some { s with readers := s.readers - 1, rset := s.rset.erase t,
                    pc := upd s.pc t (afterGet r) }
    | .wlock =>
      if s.writer || s.readers != 0 then none
      else some { s with writer := true, pc := upd s.pc t .wheld }
    | .wheld =>
      some { s with pc := upd s.pc t (afterRecheck (s.entries op.key)) }
    | .miss =>
      match op.out with
      | .ok v => some { s with pc := upd s.pc t (.callok v), okCalls := upd s.okCalls op.key (v :: s.okCalls op.key) }
      | .fail => some { s with pc := upd s.pc t (.holding none),
                               failCalls := upd s.failCalls op.key (s.failCalls op.key + 1) }
    | .callok v => some { s with entries := upd s.entries op.key (some v), pc := upd s.pc t (.holding (some v)) }
    | .holding r => some { s with writer := false, pc := upd s.pc t (.retv r) }
    | .retv r => some { s with rets := (t, op.key, r) :: s.rets, prog := upd s.prog t rest, pc := upd s.pc t .start }

def Step (s s' : State) : Prop := ∃ t, next s t = some s'

inductive Steps : State → State → Prop where
  | refl (s) : Steps s s
  | tail {s s' s''} : Steps s s' → Step s' s'' → Steps s s''

/-- every state some interleaving of some set of caller programs can reach -/
def Reachable (s : State) : Prop := ∃ prog, Steps (init prog) s

/-- run a schedule (list of thread ids); `none` when some scheduled thread has no step -/
def run (s : State) : List Tid → Option State
  | [] => some s
  | t :: ts => match next s t with
    | some s' => run s' ts
    | none => none

/-- the effect of `Freeze()` on the cache: none -/
def freeze (s : State) : State := s

end Dawn.Cache
