import Dawn.Proofs.DiffArr
/-!
C16: the invariant of the O(NP) search (`compose`, `snake`).

Throughout, `a` is the shorter sequence (`m = a.length`), `b` the longer (`n = b.length`), `off = m + 1`,
`delta = n - m`, diagonal `k = y - x`. `fp[k + off]` is the furthest `y` reached on diagonal `k` (or `-1`),
`path[k + off]` the index in `pts` of the point that reached it.
-/
namespace Dawn.Diff

section
variable {α : Type} (eq : α → α → Except Err Bool) (eqb : α → α → Bool) (a b : List α)

def Cell (x y : Int) : Prop :=
  0 ≤ x ∧ 0 ≤ y ∧ ∃ u v, a[x.toNat]? = some u ∧ b[y.toNat]? = some v ∧ eqb u v = true

def Diag (S : Int × Int) (s : Nat) : Prop := ∀ i : Nat, i < s → Cell eqb a b (S.1 + i) (S.2 + i)

def Move (P S : Int × Int) : Prop :=
  S = P ∨ (S = (P.1 + 1, P.2) ∧ 0 ≤ P.1 ∧ P.1 < a.length) ∨ (S = (P.1, P.2 + 1) ∧ 0 ≤ P.2 ∧ P.2 < b.length)

/-- the way `recordSeq` walks from one route point to the next -/
def Seg (P Q : Int × Int) : Prop :=
  ∃ (S : Int × Int) (s : Nat), Move a b P S ∧ Diag eqb a b S s ∧ Q = (S.1 + s, S.2 + s)

def Anchor (pts : Array Pt) (r : Int) (P : Int × Int) : Prop :=
  (r = -1 ∧ P = (0, 0)) ∨ (0 ≤ r ∧ ∃ q, pts[r.toNat]? = some q ∧ P = (q.x, q.y))

def PtsOK (pts : Array Pt) : Prop :=
  ∀ (i : Nat) (q : Pt), pts[i]? = some q → q.r < i ∧ ∃ P, Anchor pts q.r P ∧ Seg eqb a b P (q.x, q.y)

def fpAt (st : St) (k : Int) : Int := getI st.fp (k + (a.length + 1 : Int))

def pathAt (st : St) (k : Int) : Int := getI st.path (k + (a.length + 1 : Int))

def DiagOK (st : St) (k : Int) : Prop :=
  (fpAt a st k = -1 ∧ pathAt a st k = -1) ∨
  (∃ q, 0 ≤ pathAt a st k ∧ st.pts[(pathAt a st k).toNat]? = some q ∧ q.y = fpAt a st k ∧ q.x = q.y - k ∧
        0 ≤ q.x ∧ q.x ≤ a.length ∧ 0 ≤ q.y ∧ q.y ≤ b.length)

/-- the invariant of the search, kept by every `snake` call -/
structure Good (size : Nat) (st : St) : Prop where
  size_fp : st.fp.size = size
  size_path : st.path.size = size
  pts : PtsOK eqb a b st.pts
  diag : ∀ k : Int, -(a.length + 1 : Int) ≤ k → k ≤ b.length + 1 → DiagOK a b st k

/-- the state after `snake` has recorded the point `q` and `q.y` has been stored in `fp[i]` -/
def St.put (st : St) (i : Nat) (q : Pt) : St :=
  { fp := st.fp.setIfInBounds i q.y, path := st.path.setIfInBounds i st.pts.size, pts := st.pts.push q }

variable {eq eqb a b}

theorem Anchor.push {pts : Array Pt} {r : Int} {P : Int × Int} (h : Anchor pts r P) (q : Pt) :
    Anchor (pts.push q) r P :=
  h.imp id fun ⟨h0, q', hq', hP⟩ => ⟨h0, q', getElem?_push_of_some q hq', hP⟩

theorem Anchor.lt {pts : Array Pt} {r : Int} {P : Int × Int} (h : Anchor pts r P) : r < pts.size := by
  rcases h with ⟨hr, _⟩ | ⟨_, q, hq, _⟩
  · omega
  · have := lt_of_getElem?_some hq; omega

theorem PtsOK.push {pts : Array Pt} (h : PtsOK eqb a b pts) (q : Pt)
    (hq : ∃ P, Anchor pts q.r P ∧ Seg eqb a b P (q.x, q.y)) : PtsOK eqb a b (pts.push q) := by
  intro i q0 hi
  rw [Array.getElem?_push] at hi
  split at hi
  · next hsz =>
    cases hi
    obtain ⟨P, hA, hs⟩ := hq
    exact ⟨hsz ▸ hA.lt, P, hA.push q, hs⟩
  · obtain ⟨hlt, P, hA, hs⟩ := h i q0 hi
    exact ⟨hlt, P, hA.push q, hs⟩

theorem snake_access (arr : Array Int) {k : Int} (hk0 : -(a.length : Int) ≤ k) (hk1 : k ≤ b.length)
    (hsz : a.length + b.length + 3 ≤ arr.size) :
    rd arr (k - 1 + (a.length + 1 : Int)) = .ok (getI arr (k - 1 + (a.length + 1 : Int))) ∧
    rd arr (k + 1 + (a.length + 1 : Int)) = .ok (getI arr (k + 1 + (a.length + 1 : Int))) ∧
    ∀ v, wr arr (k + (a.length + 1 : Int)) v = .ok (arr.setIfInBounds (k + (a.length + 1 : Int)).toNat v) :=
  ⟨rd_ok (by omega) (by omega), rd_ok (by omega) (by omega), fun v => wr_ok v (by omega) (by omega)⟩

theorem fpAt_put (st : St) {k : Int} (j : Int) (q : Pt) (hk0 : -(a.length : Int) ≤ k) (hk1 : k ≤ b.length)
    (hsz : a.length + b.length + 3 ≤ st.fp.size) :
    fpAt a (st.put (k + (a.length + 1 : Int)).toNat q) j = if j = k then q.y else fpAt a st j :=
  getI_set_add _ (by omega) (by omega)

theorem pathAt_put (st : St) {k : Int} (j : Int) (q : Pt) (hk0 : -(a.length : Int) ≤ k) (hk1 : k ≤ b.length)
    (hsz : a.length + b.length + 3 ≤ st.path.size) :
    pathAt a (st.put (k + (a.length + 1 : Int)).toNat q) j = if j = k then (st.pts.size : Int) else pathAt a st j :=
  getI_set_add _ (by omega) (by omega)

theorem Good.put {size : Nat} {st : St} (hg : Good eqb a b size st) (hsize : a.length + b.length + 3 ≤ size)
    {k : Int} (hk0 : -(a.length : Int) ≤ k) (hk1 : k ≤ b.length) (q : Pt)
    (hang : ∃ P, Anchor st.pts q.r P ∧ Seg eqb a b P (q.x, q.y)) (hd : q.x = q.y - k)
    (hgrid : 0 ≤ q.x ∧ q.x ≤ a.length ∧ 0 ≤ q.y ∧ q.y ≤ b.length) :
    Good eqb a b size (st.put (k + (a.length + 1 : Int)).toNat q) := by
  have hsf := hg.size_fp
  have hsp := hg.size_path
  refine ⟨by simp [St.put, hsf], by simp [St.put, hsp], hg.pts.push q hang, fun j hj0 hj1 => ?_⟩
  unfold DiagOK
  rw [fpAt_put st j q hk0 hk1 (hsf ▸ hsize), pathAt_put st j q hk0 hk1 (hsp ▸ hsize)]
  by_cases hjk : j = k
  · subst hjk
    simp only [↓reduceIte]
    exact Or.inr ⟨q, Int.natCast_nonneg _, by simp [St.put], rfl, hd, hgrid⟩
  · simp only [hjk, ↓reduceIte]
    exact (hg.diag j hj0 hj1).imp id fun ⟨q', h0, hq', rest⟩ => ⟨q', h0, getElem?_push_of_some q hq', rest⟩

theorem DiagOK.ge {st : St} {k : Int} (h : DiagOK a b st k) : -1 ≤ fpAt a st k := by
  rcases h with ⟨h, _⟩ | ⟨q, _, _, hy, _, _, _, hy0, _⟩ <;> omega

theorem fpAt_ge {size : Nat} {st : St} (hg : Good eqb a b size st) (k : Int)
    (h0 : -(a.length + 1 : Int) ≤ k) (h1 : k ≤ b.length + 1) : -1 ≤ fpAt a st k :=
  (hg.diag k h0 h1).ge

theorem steps_ok (heq : EqOn eq eqb a b) (x y : Int) (hgrid : 0 ≤ x ∧ x ≤ a.length ∧ 0 ≤ y ∧ y ≤ b.length) :
    ∃ s : Nat, run eq (a.drop x.toNat) (b.drop y.toNat) = .ok s ∧
      (x + s ≤ a.length ∧ y + s ≤ b.length) ∧ Diag eqb a b (x, y) s := by
  obtain ⟨s, hs, h1, h2, h3⟩ := run_ok eq eqb (a.drop x.toNat) (b.drop y.toNat) (heq.drop _ _)
  simp only [List.length_drop] at h1 h2
  refine ⟨s, hs, by omega, fun i hi => ?_⟩
  obtain ⟨u, v, hu, hv, huv⟩ := h3 i hi
  rw [List.getElem?_drop] at hu hv
  have e : x.toNat + i = (x + i).toNat ∧ y.toNat + i = (y + i).toNat ∧ 0 ≤ x + i ∧ 0 ≤ y + i := by omega
  exact ⟨e.2.2.1, e.2.2.2, u, v, e.1 ▸ hu, e.2.1 ▸ hv, huv⟩

theorem snake_eval (heq : EqOn eq eqb a b) {k : Int} (p pp y : Int) (st : St)
    (hk0 : -(a.length : Int) ≤ k) (hk1 : k ≤ b.length) (hsz : a.length + b.length + 3 ≤ st.path.size)
    (hy : y = if p < pp then pp else p)
    (hgrid : 0 ≤ y - k ∧ y - k ≤ a.length ∧ 0 ≤ y ∧ y ≤ b.length) :
    ∃ s : Nat, snake eq a b k p pp (a.length + 1) st = .ok (y + s,
      { st with path := st.path.setIfInBounds (k + (a.length + 1 : Int)).toNat st.pts.size,
                pts := st.pts.push ⟨y - k + s, y + s,
                  if p > pp then pathAt a st (k - 1) else pathAt a st (k + 1)⟩ }) ∧
      (y - k + s ≤ a.length ∧ y + s ≤ b.length) ∧ Diag eqb a b (y - k, y) s := by
  obtain ⟨s, hrun, hs, hcells⟩ := steps_ok heq (y - k) y hgrid
  refine ⟨s, ?_, hs, hcells⟩
  obtain ⟨hr1, hr2, hw⟩ := snake_access st.path hk0 hk1 hsz
  have hneg : ¬ (y - k < 0 ∨ y < 0) := by omega
  -- what follows the read of `path` and the loop is compiled into both branches of their `if`s
  by_cases hc : y - k < a.length ∧ y < b.length
  · by_cases h : p > pp <;>
      simp only [snake, pathAt, ← hy, h, hc, hneg, and_self, ↓reduceIte, hr1, hr2, hrun, hw, bind, Except.bind, pure,
        Except.pure]
  · -- on the border of the grid the loop is not entered, and the run is empty
    obtain rfl : s = 0 := by omega
    by_cases h : p > pp <;>
      simp only [snake, pathAt, ← hy, h, hc, ↓reduceIte, hr1, hr2, hw, bind, Except.bind, pure, Except.pure]

/-- One `snake` call and the store into `fp`, under the invariant. The snake starts at
`y = max(fp[k-1] + 1, fp[k+1])`: one step in `y` from the point of diagonal `k - 1` or one step in `x` from the point
of diagonal `k + 1`, whichever `path` link is taken; when both are unset (`hroot`) that is the origin; `hy` and `hx`
keep the step inside the grid. -/
theorem stepK_spec (size : Nat) (hsize : a.length + b.length + 3 ≤ size) {delta : Int}
    (hδ : (a.length : Int) + delta = b.length) (heq : EqOn eq eqb a b) (st : St) (k : Int)
    (hg : Good eqb a b size st)
    (hk0 : -(a.length : Int) ≤ k) (hk1 : k ≤ b.length)
    (hroot : fpAt a st (k - 1) = -1 → fpAt a st (k + 1) = -1 → k = 0)
    (hy : delta < k → fpAt a st (k - 1) < b.length)
    (hx : k < delta → fpAt a st (k + 1) = -1 ∨ fpAt a st (k + 1) - (k + 1) < a.length) :
    ∃ st', stepK eq a b (a.length + 1) k st = .ok st' ∧ Good eqb a b size st' ∧
      (∀ j : Int, j ≠ k → fpAt a st' j = fpAt a st j) ∧
      fpAt a st (k - 1) + 1 ≤ fpAt a st' k ∧ fpAt a st (k + 1) ≤ fpAt a st' k ∧ st'.pts.size = st.pts.size + 1 := by
  have hsf : a.length + b.length + 3 ≤ st.fp.size := hg.size_fp ▸ hsize
  obtain ⟨r1, r2, w⟩ := snake_access st.fp hk0 hk1 hsf
  have r1 : rd st.fp (k - 1 + (a.length + 1 : Int)) = .ok (fpAt a st (k - 1)) := r1
  have r2 : rd st.fp (k + 1 + (a.length + 1 : Int)) = .ok (fpAt a st (k + 1)) := r2
  have hsp : a.length + b.length + 3 ≤ st.path.size := hg.size_path ▸ hsize
  have d1 := hg.diag (k - 1) (by omega) (by omega)
  have d2 := hg.diag (k + 1) (by omega) (by omega)
  have g1 := d1.ge
  have g2 := d2.ge
  unfold DiagOK at d1 d2
  generalize fpAt a st (k - 1) = v1 at *
  generalize fpAt a st (k + 1) = v2 at *
  have hstart : ∀ y r : Int, y = (if v1 + 1 < v2 then v2 else v1 + 1) →
      r = (if v1 + 1 > v2 then pathAt a st (k - 1) else pathAt a st (k + 1)) →
      (0 ≤ y - k ∧ y - k ≤ a.length ∧ 0 ≤ y ∧ y ≤ b.length) ∧ ∃ P, Anchor st.pts r P ∧ Move a b P (y - k, y) := by
    intro y r hy' hr
    by_cases hc : v1 + 1 > v2
    · rw [if_pos hc] at hr
      rw [if_neg (Int.lt_asymm hc)] at hy'
      subst y r
      rcases d1 with ⟨e1, e2⟩ | ⟨q, hq0, hq, qy, qx, qx0, qx1, qy0, qy1⟩
      · have hk := hroot e1 (by omega)
        subst hk e1
        exact ⟨by omega, (0, 0), Or.inl ⟨e2, rfl⟩, Or.inl rfl⟩
      · have hylt : v1 < b.length := by
          by_cases hkd : delta < k
          · exact hy hkd
          · omega
        have e : (0 ≤ v1 + 1 - k ∧ v1 + 1 - k ≤ a.length ∧ 0 ≤ v1 + 1 ∧ v1 + 1 ≤ b.length) ∧
            v1 + 1 - k = q.x ∧ v1 + 1 = q.y + 1 ∧ q.y < b.length := by omega
        exact ⟨e.1, (q.x, q.y), Or.inr ⟨hq0, q, hq, rfl⟩, Or.inr (Or.inr ⟨Prod.ext e.2.1 e.2.2.1, qy0, e.2.2.2⟩)⟩
    · rw [if_neg hc] at hr
      have : (if v1 + 1 < v2 then v2 else v1 + 1) = v2 := by split <;> omega
      rw [this] at hy'
      subst y r
      rcases d2 with ⟨e1, e2⟩ | ⟨q, hq0, hq, qy, qx, qx0, qx1, qy0, qy1⟩
      · exact absurd e1 (by omega)
      · have hxlt : v2 - (k + 1) < a.length := by
          by_cases hkd : k < delta
          · exact (hx hkd).resolve_left (by omega)
          · omega
        have e : (0 ≤ v2 - k ∧ v2 - k ≤ a.length ∧ 0 ≤ v2 ∧ v2 ≤ b.length) ∧
            v2 - k = q.x + 1 ∧ v2 = q.y ∧ q.x < a.length := by omega
        exact ⟨e.1, (q.x, q.y), Or.inr ⟨hq0, q, hq, rfl⟩, Or.inr (Or.inl ⟨Prod.ext e.2.1 e.2.2.1, qx0, e.2.2.2⟩)⟩
  obtain ⟨hgrid, P, hA, hM⟩ := hstart _ _ rfl rfl
  obtain ⟨s, hsn, hs, hcells⟩ := snake_eval heq (v1 + 1) v2 _ st hk0 hk1 hsp rfl hgrid
  obtain ⟨hb1, hb2⟩ := le_ite_max (v1 + 1) v2
  generalize (if v1 + 1 < v2 then v2 else v1 + 1) = y at *
  generalize (if v1 + 1 > v2 then pathAt a st (k - 1) else pathAt a st (k + 1)) = r at *
  have e : v1 + 1 ≤ y + s ∧ v2 ≤ y + s ∧ y - k + s = y + s - k ∧ 0 ≤ y - k + s ∧ 0 ≤ y + s := by omega
  have hF := fun j => fpAt_put st j ⟨y - k + s, y + s, r⟩ hk0 hk1 hsf
  refine ⟨st.put (k + (a.length + 1 : Int)).toNat ⟨y - k + s, y + s, r⟩, ?_, ?_,
    fun j hjk => (hF j).trans (if_neg hjk), ?_, ?_, by simp [St.put]⟩
  · simp only [stepK, r1, r2, hsn, w, bind, Except.bind, pure, Except.pure]
    rfl
  · exact hg.put hsize hk0 hk1 _ ⟨P, hA, (y - k, y), s, hM, hcells, rfl⟩ e.2.2.1
      ⟨e.2.2.2.1, hs.1, e.2.2.2.2, hs.2⟩
  · rw [hF k, if_pos rfl]; exact e.1
  · rw [hF k, if_pos rfl]; exact e.2.1

theorem sweepUp_spec (size : Nat) (hsize : a.length + b.length + 3 ≤ size) {delta : Int}
    (hδ : (a.length : Int) + delta = b.length) (heq : EqOn eq eqb a b) (cnt : Nat) : ∀ (st : St) (k0 hi : Int),
    Good eqb a b size st → k0 + cnt = hi →
    -(a.length : Int) ≤ k0 → hi ≤ delta →
    (fpAt a st (k0 - 1) = -1 → fpAt a st (k0 + 1) = -1 → k0 = 0 ∨ cnt = 0) →
    (∀ j : Int, k0 < j → j ≤ hi → fpAt a st j = -1 ∨ fpAt a st j - j < a.length) →
    ∃ st', sweepUp eq a b (a.length + 1) k0 cnt st = .ok st' ∧ Good eqb a b size st' ∧
      (∀ j : Int, j < k0 ∨ hi ≤ j → fpAt a st' j = fpAt a st j) ∧
      (∀ j : Int, k0 ≤ j → j < hi → 0 ≤ fpAt a st' j ∧ fpAt a st' (j - 1) + 1 ≤ fpAt a st' j) ∧
      st'.pts.size = st.pts.size + cnt := by
  induction cnt with
  | zero =>
    intro st k0 hi hg _ _ _ _ _
    exact ⟨st, rfl, hg, fun _ _ => rfl, fun j h1 h2 => by omega, rfl⟩
  | succ cnt ih =>
    intro st k0 hi hg hc hk0 hk1 hroot hx
    obtain ⟨st1, e1, g1, fr1, b1, _, sz1⟩ := stepK_spec size hsize hδ heq st k0 hg hk0 (by omega)
      (fun h1 h2 => by have := hroot h1 h2; omega)
      (fun h => by omega)
      (fun _ => by have := hx (k0 + 1) (by omega) (by omega); simpa using this)
    have hv := fpAt_ge hg (k0 - 1) (by omega) (by omega)
    obtain ⟨st2, e2, g2, fr2, in2, sz2⟩ := ih st1 (k0 + 1) hi g1 (by omega) (by omega) hk1
      (fun h1 _ => by rw [Int.add_sub_cancel] at h1; omega)
      (fun j hj0 hj1 => by rw [fr1 j (by omega)]; exact hx j (by omega) hj1)
    refine ⟨st2, by simp only [sweepUp, bind, Except.bind, e1, e2], g2, fun j hjr => ?_, fun j hj0 hj1 => ?_,
      by omega⟩
    · rw [fr2 j (by omega), fr1 j (by omega)]
    · by_cases hjk : j = k0
      · subst hjk
        rw [fr2 j (by omega), fr2 (j - 1) (by omega), fr1 (j - 1) (by omega)]
        exact ⟨by omega, b1⟩
      · exact in2 j (by omega) hj1

theorem sweepDown_spec (size : Nat) (hsize : a.length + b.length + 3 ≤ size) {delta : Int}
    (hδ : (a.length : Int) + delta = b.length) (heq : EqOn eq eqb a b) (cnt : Nat) : ∀ (st : St) (k0 lo : Int),
    Good eqb a b size st → k0 - cnt = lo →
    k0 ≤ (b.length : Int) → delta ≤ lo →
    (fpAt a st (k0 - 1) = -1 → fpAt a st (k0 + 1) = -1 → cnt = 0) →
    (∀ j : Int, lo ≤ j → j < k0 → fpAt a st j < b.length) →
    ∃ st', sweepDown eq a b (a.length + 1) k0 cnt st = .ok st' ∧ Good eqb a b size st' ∧
      (∀ j : Int, j ≤ lo ∨ k0 < j → fpAt a st' j = fpAt a st j) ∧
      (∀ j : Int, lo < j → j ≤ k0 → 0 ≤ fpAt a st' j ∧ fpAt a st' (j + 1) ≤ fpAt a st' j) ∧
      st'.pts.size = st.pts.size + cnt := by
  induction cnt with
  | zero =>
    intro st k0 lo hg _ _ _ _ _
    exact ⟨st, rfl, hg, fun _ _ => rfl, fun j h1 h2 => by omega, rfl⟩
  | succ cnt ih =>
    intro st k0 lo hg hc hk0 hk1 hroot hy
    obtain ⟨st1, e1, g1, fr1, b1, b2, sz1⟩ := stepK_spec size hsize hδ heq st k0 hg (by omega) hk0
      (fun h1 h2 => by have := hroot h1 h2; omega)
      (fun _ => hy (k0 - 1) (by omega) (by omega))
      (fun h => by omega)
    have hv := fpAt_ge hg (k0 - 1) (by omega) (by omega)
    obtain ⟨st2, e2, g2, fr2, in2, sz2⟩ := ih st1 (k0 - 1) lo g1 (by omega) (by omega) hk1
      (fun _ h2 => by rw [Int.sub_add_cancel] at h2; omega)
      (fun j hj0 hj1 => by rw [fr1 j (by omega)]; exact hy j hj0 (by omega))
    refine ⟨st2, by simp only [sweepDown, bind, Except.bind, e1, e2], g2, fun j hjr => ?_, fun j hj0 hj1 => ?_,
      by omega⟩
    · rw [fr2 j (by omega), fr1 j (by omega)]
    · by_cases hjk : j = k0
      · subst hjk
        rw [fr2 j (by omega), fr2 (j + 1) (by omega), fr1 (j + 1) (by omega)]
        exact ⟨by omega, b2⟩
      · exact in2 j hj0 (by omega)

variable (eqb a b) in
/-- the state after round `p` of the `for p := 0; ; p++` loop (`delta = n - m`) -/
structure AfterRound (size : Nat) (delta : Int) (p : Nat) (st : St) : Prop where
  good : Good eqb a b size st
  dlt : (a.length : Int) + delta = b.length
  d0 : 0 ≤ delta
  reached : ∀ j : Int, -(p : Int) ≤ j → j ≤ delta + p → 0 ≤ fpAt a st j
  stepBelow : ∀ j : Int, -(p : Int) ≤ j → j < delta → fpAt a st j + 1 ≤ fpAt a st (j + 1)
  stepAbove : ∀ j : Int, delta ≤ j → j < delta + p → fpAt a st (j + 1) ≤ fpAt a st j

variable (eqb a b) in
/-- what round `p` needs to find: the state after round `p - 1` when the loop goes on, or the initial state -/
structure BeforeRound (size : Nat) (delta : Int) (p : Nat) (st : St) : Prop where
  good : Good eqb a b size st
  dlt : (a.length : Int) + delta = b.length
  d0 : 0 ≤ delta
  /-- so that the diagonals `-p … delta + p` have slots in the arrays -/
  rounds_le : p ≤ a.length
  /-- the outermost diagonals of the round before have been reached: the new outermost ones do not start at the origin -/
  ends : 1 ≤ p → 0 ≤ fpAt a st (-(p : Int) + 1) ∧ 0 ≤ fpAt a st (delta + p - 1)
  xInGrid : ∀ j : Int, -(p : Int) < j → j ≤ delta → fpAt a st j = -1 ∨ fpAt a st j - j < a.length
  yInGrid : ∀ j : Int, delta ≤ j → j ≤ delta + p - 1 → fpAt a st j < b.length

theorem round_spec (size : Nat) (hsize : a.length + b.length + 3 ≤ size) (heq : EqOn eq eqb a b) {delta : Int}
    (p : Nat) (st : St) (pre : BeforeRound eqb a b size delta p st) :
    ∃ st', round eq a b p st = .ok st' ∧ AfterRound eqb a b size delta p st' ∧
      (st'.pts.size : Int) = st.pts.size + (delta + 2 * p + 1) := by
  have hpm := pre.rounds_le
  have hδ := pre.dlt
  have hd0 := pre.d0
  obtain ⟨st1, e1, g1, fr1, in1, sz1⟩ := sweepUp_spec size hsize hδ heq (delta + p).toNat
    st (-(p : Int)) delta pre.good (by omega) (by omega) (Int.le_refl _)
    (fun _ h2 => by have := pre.ends; omega)
    pre.xInGrid
  obtain ⟨st2, e2, g2, fr2, in2, sz2⟩ := sweepDown_spec size hsize hδ heq p st1
    (delta + p) delta g1 (by omega) (by omega) (Int.le_refl _)
    (fun h1 _ => by
      by_cases hp : p = 0
      · exact hp
      · have := pre.ends
        rw [fr1 _ (by omega)] at h1
        omega)
    (fun j hj0 hj1 => by
      rw [fr1 j (.inr hj0)]
      exact pre.yInGrid j hj0 (by omega))
  obtain ⟨st3, e3, g3, fr3, b1, b2, sz3⟩ := stepK_spec size hsize hδ heq st2
    delta g2 (by omega) (by omega)
    (fun h1 _ => by
      by_cases hd : delta = 0
      · exact hd
      · have h := (in1 (delta - 1) (by omega) (by omega)).1
        rw [fr2 _ (by omega)] at h1
        omega)
    (fun h => absurd h (Int.lt_irrefl _)) (fun h => absurd h (Int.lt_irrefl _))
  -- below `delta` the state is that of the first sweep, above it that of the second
  have lo : ∀ j : Int, j < delta → fpAt a st3 j = fpAt a st1 j :=
    fun j h1 => by rw [fr3 j (Int.ne_of_lt h1), fr2 j (.inl (Int.le_of_lt h1))]
  have hi : ∀ j : Int, delta < j → fpAt a st3 j = fpAt a st2 j :=
    fun j h1 => fr3 j (Int.ne_of_gt h1)
  have hd := fpAt_ge g2 (delta - 1) (by omega) (by omega)
  refine ⟨st3, ?_, ⟨g3, hδ, hd0, fun j hj0 hj1 => ?_, fun j hj0 hj1 => ?_, fun j hj0 hj1 => ?_⟩, by omega⟩
  · obtain rfl : delta = (b.length : Int) - a.length := by omega
    simp only [round, bind, Except.bind, e1, e2, e3]
  · rcases Int.lt_trichotomy j delta with h | h | h
    · rw [lo j h]; exact (in1 j hj0 h).1
    · subst h; omega
    · rw [hi j h]; exact (in2 j h hj1).1
  · by_cases hjd : j + 1 = delta
    · obtain rfl : j = delta - 1 := by omega
      rw [lo _ hj1, Int.sub_add_cancel, ← fr2 _ (by omega)]
      exact b1
    · rw [lo j hj1, lo (j + 1) (by omega)]
      have := (in1 (j + 1) (by omega) (by omega)).2
      rwa [Int.add_sub_cancel] at this
  · rw [hi (j + 1) (by omega)]
    by_cases hjd : j = delta
    · subst hjd; exact b2
    · rw [hi j (by omega)]; exact (in2 j (by omega) (by omega)).2

theorem AfterRound.chainL {size p : Nat} {delta : Int} {st : St} (h : AfterRound eqb a b size delta p st) (j : Int)
    (hj0 : -(p : Int) ≤ j) (hj1 : j ≤ delta) : fpAt a st j - j ≤ fpAt a st delta - delta := by
  exact le_of_steps (fun i => fpAt a st i - i) hj1 fun i h0 h1 => by
    have := h.stepBelow i (by omega) h1; omega

theorem AfterRound.chainU {size p : Nat} {delta : Int} {st : St} (h : AfterRound eqb a b size delta p st) (j : Int)
    (hj0 : delta ≤ j) (hj1 : j ≤ delta + p) : fpAt a st j ≤ fpAt a st delta := by
  exact Int.neg_le_neg_iff.mp <| le_of_steps (fun i => -fpAt a st i) hj0 fun i h0 h1 =>
    Int.neg_le_neg (h.stepAbove i h0 (by omega))

/-- the furthest point on diagonal `delta` after round `p` is at least `p` steps beyond the start: the loop ends by
round `m` -/
theorem AfterRound.low {size p : Nat} {delta : Int} {st : St} (h : AfterRound eqb a b size delta p st) :
    delta + p ≤ fpAt a st delta := by
  have hd0 := h.d0
  have h1 := h.chainL (-(p : Int)) (Int.le_refl _) (by omega)
  have h2 := h.reached (-(p : Int)) (Int.le_refl _) (by omega)
  omega

theorem AfterRound.next {size p : Nat} {delta : Int} {st : St} (h : AfterRound eqb a b size delta p st)
    (hnd : fpAt a st delta < b.length) : BeforeRound eqb a b size delta (p + 1) st := by
  have hlow := h.low
  have hδ := h.dlt
  have hd0 := h.d0
  refine ⟨h.good, hδ, hd0, by omega,
    fun _ => ⟨h.reached _ (by omega) (by omega), h.reached _ (by omega) (by omega)⟩, fun j hj0 hj1 => .inr ?_,
    fun j hj0 hj1 => ?_⟩
  · have := h.chainL j (by omega) hj1
    omega
  · have := h.chainU j hj0 (by omega)
    omega

theorem init_pre (size : Nat) {delta : Int} (hδ : (a.length : Int) + delta = b.length) (hd0 : 0 ≤ delta) :
    BeforeRound eqb a b size delta 0
      { fp := Array.replicate size (-1), path := Array.replicate size (-1), pts := #[] } := by
  refine ⟨⟨by simp, by simp, ?_, ?_⟩, hδ, hd0, by omega, by omega, ?_, ?_⟩
  · intro i q hi; simp at hi
  · intro k _ _; left; simp [fpAt, pathAt, getI_replicate]
  · intro j _ _; left; simp [fpAt, getI_replicate]
  · intro j _ _; simp only [fpAt, getI_replicate]; omega

/-- The `for p` loop: it ends, within `m + 1` rounds (`AfterRound.low`: after round `m` diagonal `delta` has reached
`n`; `compose` gives it `m + n + 2`), in a state that satisfies the invariant. When it ends before the
end `(m, n)` is reached, the route list has outgrown `routeSize ≥ 1`: that is not round 0 with `delta = 0`, which
records one point, so the furthest point on diagonal `delta` is not the origin. -/
theorem rounds_spec (size : Nat) (hsize : a.length + b.length + 3 ≤ size) (heq : EqOn eq eqb a b) {delta : Int}
    (routeSize : Nat) (hrs : 1 ≤ routeSize) (fuel : Nat) : ∀ (p : Nat) (st : St),
    BeforeRound eqb a b size delta p st → a.length + 1 ≤ fuel + p → (p = 0 → st.pts.size = 0) →
    ∃ st' p', rounds eq a b routeSize fuel p st = .ok st' ∧ AfterRound eqb a b size delta p' st' ∧
      (fpAt a st' delta < b.length → 1 ≤ fpAt a st' delta) := by
  induction fuel with
  | zero =>
    intro p st pre hf
    have := pre.rounds_le; omega
  | succ fuel ih =>
    intro p st pre hf h0
    obtain ⟨st1, e1, after1, sz1⟩ := round_spec size hsize heq p st pre
    have hδ := pre.dlt
    have hd0 := pre.d0
    have hrd : rd st1.fp ((b.length : Int) - a.length + ((a.length : Int) + 1)) = .ok (fpAt a st1 delta) := by
      obtain rfl : delta = (b.length : Int) - a.length := by omega
      exact rd_ok (by omega) (by have := after1.good.size_fp; omega)
    by_cases hex : fpAt a st1 delta ≥ b.length ∨ st1.pts.size > routeSize
    · have hlow := after1.low
      refine ⟨st1, p, ?_, after1, fun hlt => by omega⟩
      simp only [rounds, bind, Except.bind, e1, hrd, hex, ↓reduceIte, pure, Except.pure]
    · obtain ⟨st2, p2, e2, after2, hfin⟩ := ih (p + 1) st1 (after1.next (by omega)) (by omega) nofun
      refine ⟨st2, p2, ?_, after2, hfin⟩
      simp only [rounds, bind, Except.bind, e1, hrd, hex, ↓reduceIte]
      exact e2

theorem search_spec (size : Nat) (hmn : a.length ≤ b.length) (hsize : a.length + b.length + 3 ≤ size)
    (heq : EqOn eq eqb a b) (routeSize : Nat) (hrs : 1 ≤ routeSize) :
    ∃ (st : St) (r : Nat) (q : Pt),
      rounds eq a b routeSize (a.length + b.length + 2) 0
        { fp := Array.replicate size (-1), path := Array.replicate size (-1), pts := #[] } = .ok st ∧
      rd st.path ((b.length : Int) - a.length + ((a.length : Int) + 1)) = .ok (r : Int) ∧
      st.pts[r]? = some q ∧ PtsOK eqb a b st.pts ∧ q.x = q.y - ((b.length : Int) - a.length) ∧
      (0 ≤ q.x ∧ q.x ≤ a.length ∧ 0 ≤ q.y ∧ q.y ≤ b.length) ∧ (q.y < b.length → 1 ≤ q.x + q.y) := by
  obtain ⟨st, p, e, after, hprog⟩ := rounds_spec size hsize heq routeSize hrs (a.length + b.length + 2) 0 _
    (init_pre size (delta := (b.length : Int) - a.length) (by omega) (by omega)) (by omega) fun _ => rfl
  have hg := after.good
  have hlow := after.low
  obtain ⟨q, hr0, hq, hqy, hqx, hgrid⟩ :=
    (hg.diag ((b.length : Int) - a.length) (by omega) (by omega)).resolve_left fun h => by omega
  refine ⟨st, (pathAt a st ((b.length : Int) - a.length)).toNat, q, e, ?_, hq, hg.pts, hqx, hgrid, fun hlt => ?_⟩
  · rw [Int.toNat_of_nonneg hr0]
    exact rd_ok (by omega) (by have := hg.size_path; omega)
  · have := hprog (hqy ▸ hlt)
    omega

end
end Dawn.Diff
