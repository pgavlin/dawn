import Dawn.Proofs.EnvToTerm
/-!
Equal terms come from isomorphic graphs (`lockstep`, for the repaired code `Cfg.current`). With `encVal_toTerm` (the
opcodes of a walk are `serT` of a term) and `serT_injective` this is C08_sensitive: equal opcodes, hence equal terms,
hence isomorphic graphs.

Tuples are immutable and never memoised, so their identity is not part of the environment: `R` relates the addresses
of all other objects, and `VSim` compares tuples element by element.
-/
namespace Dawn.Env

abbrev Pairs := List (Nat × Nat)

mutual
inductive VSim (g₁ g₂ : Heap) (R : Pairs) : Val → Val → Prop
  | atom (a : Atom) : VSim g₁ g₂ R (.atom a) (.atom a)
  | node (a b : Nat) : (a, b) ∈ R → VSim g₁ g₂ R (.ref a) (.ref b)
  | tuple (a b : Nat) (xs ys : List Val) : g₁[a]? = some (.tuple xs) → g₂[b]? = some (.tuple ys) →
      VSimL g₁ g₂ R xs ys → VSim g₁ g₂ R (.ref a) (.ref b)
inductive VSimL (g₁ g₂ : Heap) (R : Pairs) : List Val → List Val → Prop
  | nil : VSimL g₁ g₂ R [] []
  | cons (x y : Val) (xs ys : List Val) : VSim g₁ g₂ R x y → VSimL g₁ g₂ R xs ys → VSimL g₁ g₂ R (x :: xs) (y :: ys)
end

/-- same kind, same payload, similar children (a function's own name is not part of its environment) -/
inductive OSim (g₁ g₂ : Heap) (R : Pairs) : Obj → Obj → Prop
  | list (xs ys) : VSimL g₁ g₂ R xs ys → OSim g₁ g₂ R (.list xs) (.list ys)
  | dict (k₁ k₂) : VSimL g₁ g₂ R (flattenKvs k₁) (flattenKvs k₂) → OSim g₁ g₂ R (.dict k₁) (.dict k₂)
  | set (xs ys) : VSimL g₁ g₂ R xs ys → OSim g₁ g₂ R (.set xs) (.set ys)
  | target (l) : OSim g₁ g₂ R (.target l) (.target l)
  | builtin (n r₁ r₂) : VSim g₁ g₂ R r₁ r₂ → OSim g₁ g₂ R (.builtin n r₁) (.builtin n r₂)
  | code (n₁ n₂ m₁ m₂ gl₁ gl₂ bc s₁ s₂) : VSim g₁ g₂ R m₁ m₂ → VSim g₁ g₂ R gl₁ gl₂ → VSim g₁ g₂ R s₁ s₂ →
      OSim g₁ g₂ R (.code n₁ m₁ gl₁ bc s₁) (.code n₂ m₂ gl₂ bc s₂)
  | func (n₁ n₂ d₁ d₂ f₁ f₂ c₁ c₂) : VSim g₁ g₂ R d₁ d₂ → VSim g₁ g₂ R f₁ f₂ → VSim g₁ g₂ R c₁ c₂ →
      OSim g₁ g₂ R (.func n₁ d₁ f₁ c₁) (.func n₂ d₂ f₂ c₂)
  | mandatory : OSim g₁ g₂ R .mandatory .mandatory

def GoodPair (g₁ g₂ : Heap) (R : Pairs) (p : Nat × Nat) : Prop :=
  ∃ o₁ o₂, g₁[p.1]? = some o₁ ∧ g₂[p.2]? = some o₂ ∧ OSim g₁ g₂ R o₁ o₂

/-- `R` relates each address to at most one address, in both directions -/
def OneToOne (R : Pairs) : Prop :=
  (∀ a b b', (a, b) ∈ R → (a, b') ∈ R → b = b') ∧ (∀ a a' b, (a, b) ∈ R → (a', b) ∈ R → a = a')

mutual
theorem VSim.mono {g₁ g₂ : Heap} {R R' : Pairs} (h : ∀ p ∈ R, p ∈ R') : ∀ {x y}, VSim g₁ g₂ R x y → VSim g₁ g₂ R' x y
  | _, _, .atom a => .atom a
  | _, _, .node a b hm => .node a b (h _ hm)
  | _, _, .tuple a b xs ys h1 h2 hl => .tuple a b xs ys h1 h2 (VSimL.mono h hl)
theorem VSimL.mono {g₁ g₂ : Heap} {R R' : Pairs} (h : ∀ p ∈ R, p ∈ R') : ∀ {xs ys}, VSimL g₁ g₂ R xs ys → VSimL g₁ g₂ R' xs ys
  | _, _, .nil => .nil
  | _, _, .cons x y xs ys hx hl => .cons x y xs ys (VSim.mono h hx) (VSimL.mono h hl)
end

theorem OSim.mono {g₁ g₂ : Heap} {R R' : Pairs} (h : ∀ p ∈ R, p ∈ R') {o₁ o₂ : Obj} (ho : OSim g₁ g₂ R o₁ o₂) :
    OSim g₁ g₂ R' o₁ o₂ := by
  cases ho with
  | list xs ys hl => exact .list xs ys (hl.mono h)
  | dict k₁ k₂ hl => exact .dict k₁ k₂ (hl.mono h)
  | set xs ys hl => exact .set xs ys (hl.mono h)
  | target l => exact .target l
  | builtin n r₁ r₂ hr => exact .builtin n r₁ r₂ (hr.mono h)
  | code n₁ n₂ m₁ m₂ gl₁ gl₂ bc s₁ s₂ h1 h2 h3 =>
    exact .code n₁ n₂ m₁ m₂ gl₁ gl₂ bc s₁ s₂ (h1.mono h) (h2.mono h) (h3.mono h)
  | func n₁ n₂ d₁ d₂ f₁ f₂ c₁ c₂ h1 h2 h3 =>
    exact .func n₁ n₂ d₁ d₂ f₁ f₂ c₁ c₂ (h1.mono h) (h2.mono h) (h3.mono h)
  | mandatory => exact .mandatory

theorem GoodPair.mono {g₁ g₂ : Heap} {R R' : Pairs} (h : ∀ p ∈ R, p ∈ R') {p : Nat × Nat} (hg : GoodPair g₁ g₂ R p) :
    GoodPair g₁ g₂ R' p := by
  obtain ⟨o₁, o₂, h1, h2, ho⟩ := hg
  exact ⟨o₁, o₂, h1, h2, ho.mono h⟩

/-! ### the traversal of the repaired code as a relation (the graph of `toTerm Cfg.current` on its `ok` results) -/

abbrev C := Cfg.current

@[simp] theorem C_fixed : Cfg.current.fixed = true := rfl
@[simp] theorem C_builtinIdentity : Cfg.current.builtinIdentity = true := rfl
@[simp] theorem C_signature : Cfg.current.signature = true := rfl
@[simp] theorem C_mandatory : Cfg.current.mandatory = true := rfl
@[simp] theorem C_memoCounter : Cfg.current.memoCounter = true := rfl
@[simp] theorem C_reencode : Cfg.current.reencode = false := rfl

def EncSt.see (s : EncSt) (a : Nat) : EncSt := { s with seen := s.seen ++ [a] }

/-- the name the marker carries for a host object that can reach itself -/
def markName : Obj → Option Bytes
  | .builtin n _ => some n
  | .code n _ _ _ _ => some n
  | .func n _ _ _ => some n
  | _ => none

mutual
inductive Enc (g : Heap) : Nat → EncSt → Val → EncSt → Term → Prop
  | atom (fuel s a) : Enc g fuel s (.atom a) s (.atom a)
  | hit (fuel s a id) : lookup s.memo a = some id → Enc g (fuel + 1) s (.ref a) s (.bg id)
  | tuple (fuel s a xs s' ts) : lookup s.memo a = none → g[a]? = some (.tuple xs) → EncL g fuel s xs s' ts →
      Enc g (fuel + 1) s (.ref a) s' (tupleOf ts)
  | list (fuel s a xs s' ts) : lookup s.memo a = none → g[a]? = some (.list xs) → EncL g fuel (s.memoize C a) xs s' ts →
      Enc g (fuel + 1) s (.ref a) s' (.list (Terms.ofList ts))
  | dict (fuel s a kvs s' ts) : lookup s.memo a = none → g[a]? = some (.dict kvs) →
      EncL g fuel (s.memoize C a) (flattenKvs kvs) s' ts → Enc g (fuel + 1) s (.ref a) s' (.dict (Terms.ofList ts))
  | set (fuel s a xs s' ts) : lookup s.memo a = none → g[a]? = some (.set xs) → EncL g fuel (s.memoize C a) xs s' ts →
      Enc g (fuel + 1) s (.ref a) s' (.set (Terms.ofList ts))
  | target (fuel s a l) : lookup s.memo a = none → g[a]? = some (.target l) →
      Enc g (fuel + 1) s (.ref a) (s.memoize C a) (.host nameTarget (tupleOf [.atom (.str l)]))
  | mandatory (fuel s a) : lookup s.memo a = none → g[a]? = some .mandatory →
      Enc g (fuel + 1) s (.ref a) (s.memoize C a) (.host nameMandatory (tupleOf []))
  | marker (fuel s a o name idx) : lookup s.memo a = none → g[a]? = some o → markName o = some name →
      indexOf s.seen a = some idx → Enc g (fuel + 1) s (.ref a) (s.memoize C a) (markerTerm name idx)
  | builtin (fuel s a name recv s' t) : lookup s.memo a = none → g[a]? = some (.builtin name recv) →
      indexOf s.seen a = none → Enc g fuel (s.see a) recv s' t →
      Enc g (fuel + 1) s (.ref a) (s'.memoize C a) (.host nameBuiltin (tupleOf [.atom (.str name), t]))
  | code (fuel s a name m gl bc sig s1 ts1 s' t2) : lookup s.memo a = none → g[a]? = some (.code name m gl bc sig) →
      indexOf s.seen a = none → EncL g fuel (s.see a) [m, gl] s1 ts1 → Enc g fuel s1 sig s' t2 →
      Enc g (fuel + 1) s (.ref a) (s'.memoize C a) (.host nameCode (tupleOf (ts1 ++ [.atom (.bytes bc), t2])))
  | func (fuel s a name d fv c s' ts) : lookup s.memo a = none → g[a]? = some (.func name d fv c) →
      indexOf s.seen a = none → EncL g fuel (s.see a) [d, fv, c] s' ts →
      Enc g (fuel + 1) s (.ref a) (s'.memoize C a) (.host nameFunc (tupleOf ts))
inductive EncL (g : Heap) : Nat → EncSt → List Val → EncSt → List Term → Prop
  | nil (fuel s) : EncL g fuel s [] s []
  | cons (fuel s x xs s1 t s2 ts) : Enc g fuel s x s1 t → EncL g fuel s1 xs s2 ts → EncL g fuel s (x :: xs) s2 (t :: ts)
end

theorem tSeq_EncL {g : Heap} {fuel : Nat} {f : EncSt → Val → TRes}
    (h : ∀ s v s' t, f s v = .ok (s', t) → Enc g fuel s v s' t) :
    ∀ xs s s' ts, tSeq f s xs = .ok (s', ts) → EncL g fuel s xs s' ts
  | [], s, _, _, hs => by cases hs; exact .nil fuel s
  | x :: xs, s, _, _, hs => by
    simp only [tSeq] at hs
    split at hs
    · cases hs
    · next s1 t hx =>
      split at hs
      · cases hs
      · next s2 ts' hr => cases hs; exact .cons fuel s x xs _ _ _ _ (h _ _ _ _ hx) (tSeq_EncL h xs _ _ _ hr)

theorem toTerm_Enc (g : Heap) : ∀ fuel s v s' t, toTerm C g fuel s v = .ok (s', t) → Enc g fuel s v s' t
  | fuel, s, .atom a, _, _, h => by simp only [toTerm] at h; cases h; exact .atom fuel s a
  | 0, _, .ref _, _, _, h => by simp only [toTerm] at h; cases h
  | fuel + 1, s, .ref a, _, _, h => by
    have ih := toTerm_Enc g fuel
    have hL := tSeq_EncL ih
    simp only [toTerm, C_builtinIdentity, C_fixed, C_signature, C_mandatory, ↓reduceIte] at h
    -- one `split` per `match` of `toTerm`, the bullets in the order of its arms (for `g[a]?`: none, tuple, set, dict,
    -- list, target, builtin, mandatory, other, code, func); an arm that returns an error contradicts `h`
    split at h
    · next id hl => cases h; exact .hit fuel s a id hl
    · next hl =>
      split at h
      · cases h
      · next xs hg =>
        split at h
        · cases h
        · next s1 ts hs => cases h; exact .tuple fuel s a xs _ _ hl hg (hL _ _ _ _ hs)
      · next xs hg =>
        split at h
        · cases h
        · next s1 ts hs => cases h; exact .set fuel s a xs _ _ hl hg (hL _ _ _ _ hs)
      · next kvs hg =>
        split at h
        · cases h
        · next s1 ts hs => cases h; exact .dict fuel s a kvs _ _ hl hg (hL _ _ _ _ hs)
      · next xs hg =>
        split at h
        · cases h
        · next s1 ts hs => cases h; exact .list fuel s a xs _ _ hl hg (hL _ _ _ _ hs)
      · next l hg => cases h; exact .target fuel s a l hl hg
      · next name recv hg =>
        split at h
        · next idx hi => cases h; exact .marker fuel s a _ name idx hl hg rfl hi
        · next hi =>
          split at h
          · cases h
          · next s1 t1 hr => cases h; exact .builtin fuel s a name recv _ _ hl hg hi (ih _ _ _ _ hr)
      · next hg => cases h; exact .mandatory fuel s a hl hg
      · cases h
      · next name m gl bc sig hg =>
        split at h
        · next idx hi => cases h; exact .marker fuel s a _ name idx hl hg rfl hi
        · next hi =>
          split at h
          · cases h
          · next s1 ts1 hs =>
            split at h
            · cases h
            · next s2 t2 hr =>
              cases h; exact .code fuel s a name m gl bc sig _ _ _ _ hl hg hi (hL _ _ _ _ hs) (ih _ _ _ _ hr)
      · next name d fv c hg =>
        split at h
        · next idx hi => cases h; exact .marker fuel s a _ name idx hl hg rfl hi
        · next hi =>
          split at h
          · cases h
          · next s1 ts hs => cases h; exact .func fuel s a name d fv c _ _ hl hg hi (hL _ _ _ _ hs)

/-! ### the rule that wrote a term can be read off the term

The rules of `Enc` write terms with different heads, and host objects under different names: when the term of a
derivation is known up to the arguments of its head, `cases` leaves the one rule that applies (for a tuple, list, dict
or set: generalise the elements first). For host objects the rule is the position of the name in `hostNames`. -/

def hostNames : List Bytes := [nameTarget, nameMandatory, nameRecursive, nameBuiltin, nameCode, nameFunc]

theorem hostNames_inj {i j : Nat} {n : Bytes} (hi : hostNames[i]? = some n) (hj : hostNames[j]? = some n) : i = j :=
  have nodup : hostNames.Nodup := by decide +kernel
  (List.getElem?_inj (List.getElem?_eq_some_iff.mp hi).1 nodup).mp (hi.trans hj.symm)

/-- the premises of the rule of `Enc` that writes the object at `a` under the name `hostNames[i]` -/
def HostRule (g : Heap) (fuel : Nat) (s : EncSt) (a : Nat) (s' : EncSt) (args : Term) : Nat → Prop
  | 0 => ∃ l, g[a]? = some (.target l) ∧ s' = s.memoize C a ∧ args = tupleOf [.atom (.str l)]
  | 1 => g[a]? = some .mandatory ∧ s' = s.memoize C a ∧ args = tupleOf []
  | 2 => ∃ o name idx, g[a]? = some o ∧ markName o = some name ∧ indexOf s.seen a = some idx ∧ s' = s.memoize C a ∧
      args = tupleOf [.atom (.str name), .atom (.int idx)]
  | 3 => ∃ name recv s₀ t, g[a]? = some (.builtin name recv) ∧ indexOf s.seen a = none ∧ Enc g fuel (s.see a) recv s₀ t ∧
      s' = s₀.memoize C a ∧ args = tupleOf [.atom (.str name), t]
  | 4 => ∃ name m gl bc sig s₁ ts₁ s₀ t₂, g[a]? = some (.code name m gl bc sig) ∧ indexOf s.seen a = none ∧
      EncL g fuel (s.see a) [m, gl] s₁ ts₁ ∧ Enc g fuel s₁ sig s₀ t₂ ∧ s' = s₀.memoize C a ∧
      args = tupleOf (ts₁ ++ [.atom (.bytes bc), t₂])
  | 5 => ∃ name d fv c s₀ ts, g[a]? = some (.func name d fv c) ∧ indexOf s.seen a = none ∧
      EncL g fuel (s.see a) [d, fv, c] s₀ ts ∧ s' = s₀.memoize C a ∧ args = tupleOf ts
  | _ => False

theorem Enc.inv_host {g : Heap} {f : Nat} {s s' : EncSt} {v : Val} {n : Bytes} {args : Term} (h : Enc g f s v s' (.host n args))
    {i : Nat} (hn : hostNames[i]? = some n) :
    ∃ fuel a, f = fuel + 1 ∧ v = .ref a ∧ lookup s.memo a = none ∧ HostRule g fuel s a s' args i := by
  cases h with
  | target fuel _ a l hl hg => cases hostNames_inj hn (j := 0) rfl; exact ⟨fuel, a, rfl, rfl, hl, l, hg, rfl, rfl⟩
  | mandatory fuel _ a hl hg => cases hostNames_inj hn (j := 1) rfl; exact ⟨fuel, a, rfl, rfl, hl, hg, rfl, rfl⟩
  | marker fuel _ a o name idx hl hg hm hi =>
    cases hostNames_inj hn (j := 2) rfl; exact ⟨fuel, a, rfl, rfl, hl, o, name, idx, hg, hm, hi, rfl, rfl⟩
  | builtin fuel _ a name recv s₀ t hl hg hi hr =>
    cases hostNames_inj hn (j := 3) rfl; exact ⟨fuel, a, rfl, rfl, hl, name, recv, s₀, t, hg, hi, hr, rfl, rfl⟩
  | code fuel _ a name m gl bc sig s₁ ts₁ s₀ t₂ hl hg hi hs hr =>
    cases hostNames_inj hn (j := 4) rfl
    exact ⟨fuel, a, rfl, rfl, hl, name, m, gl, bc, sig, s₁, ts₁, s₀, t₂, hg, hi, hs, hr, rfl, rfl⟩
  | func fuel _ a name d fv c s₀ ts hl hg hi hs =>
    cases hostNames_inj hn (j := 5) rfl; exact ⟨fuel, a, rfl, rfl, hl, name, d, fv, c, s₀, ts, hg, hi, hs, rfl, rfl⟩

theorem EncL.length {g : Heap} {f : Nat} {xs : List Val} {s s' : EncSt} {ts : List Term} (h : EncL g f s xs s' ts) :
    ts.length = xs.length := by
  induction xs generalizing s ts with
  | nil => cases h; rfl
  | cons x xs ih => cases h with | cons _ _ _ _ _ _ _ _ _ hr => exact congrArg (· + 1) (ih hr)

def IsHostAt (g : Heap) (a : Nat) : Prop := ∃ o n, g[a]? = some o ∧ markName o = some n

/-- the two `seen` lists are related position by position -/
inductive SeenRel (R : Pairs) : List Nat → List Nat → Prop
  | nil : SeenRel R [] []
  | cons (a b : Nat) (l₁ l₂ : List Nat) : (a, b) ∈ R → SeenRel R l₁ l₂ → SeenRel R (a :: l₁) (b :: l₂)

theorem SeenRel.mono {R R' : Pairs} (h : ∀ p ∈ R, p ∈ R') {l₁ l₂ : List Nat} (hl : SeenRel R l₁ l₂) : SeenRel R' l₁ l₂ := by
  induction hl with
  | nil => exact .nil
  | cons a b l₁ l₂ hab _ ih => exact .cons a b l₁ l₂ (h _ hab) ih

theorem SeenRel.snoc {R : Pairs} {l₁ l₂ : List Nat} (hl : SeenRel R l₁ l₂) {a b : Nat} (hab : (a, b) ∈ R) :
    SeenRel R (l₁ ++ [a]) (l₂ ++ [b]) := by
  induction hl with
  | nil => exact .cons a b [] [] hab .nil
  | cons x y m₁ m₂ hxy _ ih => exact .cons x y _ _ hxy ih

theorem SeenRel.indexOf {R : Pairs} {l₁ l₂ : List Nat} (hl : SeenRel R l₁ l₂) {a b : Nat} {i : Nat}
    (h1 : indexOf l₁ a = some i) (h2 : indexOf l₂ b = some i) : (a, b) ∈ R := by
  induction hl generalizing i with
  | nil => cases h1
  | cons x y m₁ m₂ hxy _ ih =>
    simp only [Dawn.Env.indexOf] at h1 h2
    split at h1 <;> split at h2
    · next e1 e2 => exact e1 ▸ e2 ▸ hxy
    · obtain ⟨j, _, hj⟩ := Option.map_eq_some_iff.mp h2; cases h1; cases hj
    · obtain ⟨j, _, hj⟩ := Option.map_eq_some_iff.mp h1; cases h2; cases hj
    · obtain ⟨j₁, h1', rfl⟩ := Option.map_eq_some_iff.mp h1
      obtain ⟨j₂, h2', e⟩ := Option.map_eq_some_iff.mp h2
      cases e
      exact ih h1' h2'

theorem SeenRel.indexOf_none {R : Pairs} (ho : OneToOne R) {l₁ l₂ : List Nat} (hl : SeenRel R l₁ l₂) {a b : Nat}
    (hab : (a, b) ∈ R) (h1 : Dawn.Env.indexOf l₁ a = none) : Dawn.Env.indexOf l₂ b = none := by
  induction hl with
  | nil => rfl
  | cons x y m₁ m₂ hxy _ ih =>
    simp only [Dawn.Env.indexOf] at h1 ⊢
    by_cases e1 : x = a
    · simp [e1] at h1
    · simp [e1] at h1
      have e2 : y ≠ b := fun e => e1 (ho.2 x a b (e ▸ hxy) hab)
      simp [e2, ih h1]

theorem lookup_cons' (m : List (Nat × Nat)) (k v a : Nat) :
    lookup ((k, v) :: m) a = if k = a then some v else lookup m a := rfl

/-- everything about two related states except where the related addresses live -/
structure InvCore (g₁ g₂ : Heap) (R : Pairs) (s₁ s₂ : EncSt) : Prop where
  nops : s₁.nops = s₂.nops
  fwd : ∀ a id, lookup s₁.memo a = some id → ∃ b, (a, b) ∈ R ∧ lookup s₂.memo b = some id
  bwd : ∀ b id, lookup s₂.memo b = some id → ∃ a, (a, b) ∈ R ∧ lookup s₁.memo a = some id
  lt₁ : ∀ a id, lookup s₁.memo a = some id → id < s₁.nops
  lt₂ : ∀ b id, lookup s₂.memo b = some id → id < s₂.nops
  inj₁ : ∀ a a' id, lookup s₁.memo a = some id → lookup s₁.memo a' = some id → a = a'
  inj₂ : ∀ b b' id, lookup s₂.memo b = some id → lookup s₂.memo b' = some id → b = b'
  seen : SeenRel R s₁.seen s₂.seen
  oto : OneToOne R
  host₁ : ∀ a ∈ s₁.seen, IsHostAt g₁ a
  host₂ : ∀ b ∈ s₂.seen, IsHostAt g₂ b

/-- every related address is memoised or in progress (`seen`), except possibly the pair `ex` -/
def Dom (R : Pairs) (s₁ s₂ : EncSt) (ex : Option (Nat × Nat)) : Prop :=
  ∀ a b, (a, b) ∈ R → some (a, b) = ex ∨
    (((lookup s₁.memo a).isSome ∨ a ∈ s₁.seen) ∧ ((lookup s₂.memo b).isSome ∨ b ∈ s₂.seen))

def Inv (g₁ g₂ : Heap) (R : Pairs) (s₁ s₂ : EncSt) : Prop := InvCore g₁ g₂ R s₁ s₂ ∧ Dom R s₁ s₂ none

theorem seen_see (s : EncSt) (a : Nat) : (s.see a).seen = s.seen ++ [a] := rfl
theorem memo_see (s : EncSt) (a : Nat) : (s.see a).memo = s.memo := rfl
theorem nops_see (s : EncSt) (a : Nat) : (s.see a).nops = s.nops := rfl

/-! Each half of `InvCore` and of `Dom` speaks of one state, or of one direction of `R`: the facts below are stated
for one state (one direction) and used for both. -/

theorem lookup_memoize {s : EncSt} {a x id : Nat} :
    lookup (s.memoize C a).memo x = some id ↔ a = x ∧ s.nops = id ∨ a ≠ x ∧ lookup s.memo x = some id := by
  simp only [EncSt.memoize, C_memoCounter, ↓reduceIte, lookup_cons']
  split <;> simp [*]


theorem lt_inj_memoize {s : EncSt} (lt : ∀ a id, lookup s.memo a = some id → id < s.nops)
    (inj : ∀ a a' id, lookup s.memo a = some id → lookup s.memo a' = some id → a = a') (a : Nat) :
    (∀ x id, lookup (s.memoize C a).memo x = some id → id < (s.memoize C a).nops) ∧
    (∀ x x' id, lookup (s.memoize C a).memo x = some id → lookup (s.memoize C a).memo x' = some id → x = x') := by
  refine ⟨fun x id hx => ?_, fun x x' id hx hx' => ?_⟩
  · rcases lookup_memoize.mp hx with ⟨_, rfl⟩ | ⟨_, hx⟩
    · exact Nat.lt_succ_self _
    · exact Nat.lt_succ_of_lt (lt x id hx)
  · rcases lookup_memoize.mp hx with ⟨rfl, rfl⟩ | ⟨_, hx⟩ <;> rcases lookup_memoize.mp hx' with ⟨rfl, e⟩ | ⟨_, hx'⟩
    · rfl
    · exact absurd (lt x' _ hx') (Nat.lt_irrefl _)
    · exact absurd (lt x _ (e ▸ hx)) (Nat.lt_irrefl _)
    · exact inj x x' id hx hx'

/-- `InvCore.fwd` (for `rel a b := (a, b) ∈ R`) and `bwd` (for its converse) when a related pair is memoised on both
sides; also when the pair was memoised before (the `Recursive` marker, then the finished object) -/
theorem fwd_memoize {rel : Nat → Nat → Prop} {s₁ s₂ : EncSt} (hn : s₁.nops = s₂.nops)
    (inj : ∀ {a a' b}, rel a b → rel a' b → a = a')
    (fwd : ∀ a id, lookup s₁.memo a = some id → ∃ b, rel a b ∧ lookup s₂.memo b = some id) {a b : Nat} (hab : rel a b)
    (x id : Nat) (hx : lookup (s₁.memoize C a).memo x = some id) :
    ∃ y, rel x y ∧ lookup (s₂.memoize C b).memo y = some id := by
  rcases lookup_memoize.mp hx with ⟨rfl, rfl⟩ | ⟨ne, hx⟩
  · exact ⟨b, hab, lookup_memoize.mpr (.inl ⟨rfl, hn.symm⟩)⟩
  · obtain ⟨y, hxy, hy⟩ := fwd x id hx
    exact ⟨y, hxy, lookup_memoize.mpr (.inr ⟨fun e => ne (inj hab (e ▸ hxy)), hy⟩)⟩

theorem InvCore.memoize {g₁ g₂ : Heap} {R : Pairs} {s₁ s₂ : EncSt} (h : InvCore g₁ g₂ R s₁ s₂) {a b : Nat}
    (hab : (a, b) ∈ R) : InvCore g₁ g₂ R (s₁.memoize C a) (s₂.memoize C b) :=
  have m₁ := lt_inj_memoize h.lt₁ h.inj₁ a
  have m₂ := lt_inj_memoize h.lt₂ h.inj₂ b
  ⟨congrArg (· + 1) h.nops, fwd_memoize (rel := fun a b => (a, b) ∈ R) h.nops (h.oto.2 _ _ _) h.fwd hab,
    fwd_memoize (rel := fun b a => (a, b) ∈ R) h.nops.symm (h.oto.1 _ _ _) h.bwd hab,
    m₁.1, m₂.1, m₁.2, m₂.2, h.seen, h.oto, h.host₁, h.host₂⟩

theorem InvCore.add {g₁ g₂ : Heap} {R : Pairs} {s₁ s₂ : EncSt} (h : InvCore g₁ g₂ R s₁ s₂) {a b : Nat}
    (ha : ∀ y, (a, y) ∉ R) (hb : ∀ x, (x, b) ∉ R) : InvCore g₁ g₂ ((a, b) :: R) s₁ s₂ := by
  have sub : ∀ p ∈ R, p ∈ (a, b) :: R := fun _ => List.mem_cons_of_mem _
  refine { h with
    fwd := fun x id hx => ?_, bwd := fun y id hy => ?_, seen := h.seen.mono sub,
    oto := ⟨fun x y y' h1 h2 => ?_, fun x x' y h1 h2 => ?_⟩ }
  · obtain ⟨y, hxy, hy⟩ := h.fwd x id hx; exact ⟨y, sub _ hxy, hy⟩
  · obtain ⟨x, hxy, hx⟩ := h.bwd y id hy; exact ⟨x, sub _ hxy, hx⟩
  · rcases List.mem_cons.mp h1 with e1 | m1 <;> rcases List.mem_cons.mp h2 with e2 | m2
    · cases e1; cases e2; rfl
    · cases e1; exact absurd m2 (ha y')
    · cases e2; exact absurd m1 (ha y)
    · exact h.oto.1 x y y' m1 m2
  · rcases List.mem_cons.mp h1 with e1 | m1 <;> rcases List.mem_cons.mp h2 with e2 | m2
    · cases e1; cases e2; rfl
    · cases e1; exact absurd m2 (hb x')
    · cases e2; exact absurd m1 (hb x)
    · exact h.oto.2 x x' y m1 m2

/-- what `Dom` asks of each side -/
def EncSt.Known (s : EncSt) (a : Nat) : Prop := (lookup s.memo a).isSome ∨ a ∈ s.seen

theorem EncSt.Known.memoize {s : EncSt} {x : Nat} (a : Nat) (h : s.Known x ∨ a = x) : (s.memoize C a).Known x := by
  by_cases e : a = x
  · exact .inl (by rw [lookup_memoize.mpr (.inl ⟨e, rfl⟩)]; rfl)
  · refine (h.resolve_right e).imp (fun hm => ?_) id
    obtain ⟨id, hm⟩ := Option.isSome_iff_exists.mp hm
    rw [lookup_memoize.mpr (.inr ⟨e, hm⟩)]; rfl

theorem EncSt.Known.see {s : EncSt} {x : Nat} (a : Nat) (h : s.Known x ∨ a = x) : (s.see a).Known x :=
  h.elim (.imp id (List.mem_append_left _)) fun e => .inr (e ▸ List.mem_append_right _ (List.mem_singleton_self a))

theorem not_known {s : EncSt} {a : Nat} (hm : lookup s.memo a = none) (hs : a ∉ s.seen) : ¬ s.Known a :=
  fun h => h.elim (fun h => by rw [hm] at h; cases h) hs

theorem Inv.fresh {g₁ g₂ : Heap} {R : Pairs} {s₁ s₂ : EncSt} (h : Inv g₁ g₂ R s₁ s₂) :
    (∀ {a}, ¬ s₁.Known a → ∀ y, (a, y) ∉ R) ∧ (∀ {b}, ¬ s₂.Known b → ∀ x, (x, b) ∉ R) :=
  ⟨fun ha y hay => ha ((h.2 _ y hay).resolve_left nofun).1, fun hb x hxb => hb ((h.2 x _ hxb).resolve_left nofun).2⟩

/-- the pair `(a, b)` becomes known on both sides (memoised, or put in `seen`) and nothing known is forgotten -/
theorem Dom.known {R : Pairs} {s₁ s₂ t₁ t₂ : EncSt} {a b : Nat} {ex : Option (Nat × Nat)} (h : Dom R s₁ s₂ ex)
    (hex : ∀ p, some p = ex → p = (a, b)) (k₁ : ∀ x, s₁.Known x ∨ a = x → t₁.Known x) (k₂ : ∀ y, s₂.Known y ∨ b = y → t₂.Known y) :
    Dom R t₁ t₂ none := fun x y hxy =>
  .inr <| (h x y hxy).elim (fun e => by cases hex _ e; exact ⟨k₁ _ (.inr rfl), k₂ _ (.inr rfl)⟩)
    fun ⟨h1, h2⟩ => ⟨k₁ _ (.inl h1), k₂ _ (.inl h2)⟩

theorem Dom.add {R : Pairs} {s₁ s₂ : EncSt} (h : Dom R s₁ s₂ none) (a b : Nat) : Dom ((a, b) :: R) s₁ s₂ (some (a, b)) :=
  fun x y hxy => (List.mem_cons.mp hxy).imp (congrArg some) fun m => (h x y m).resolve_left nofun

theorem Inv.memoize {g₁ g₂ : Heap} {R : Pairs} {s₁ s₂ : EncSt} (h : Inv g₁ g₂ R s₁ s₂) {a b : Nat} (hab : (a, b) ∈ R) :
    Inv g₁ g₂ R (s₁.memoize C a) (s₂.memoize C b) :=
  ⟨h.1.memoize hab, h.2.known nofun (fun _ => EncSt.Known.memoize a) (fun _ => EncSt.Known.memoize b)⟩

theorem Inv.addMemo {g₁ g₂ : Heap} {R : Pairs} {s₁ s₂ : EncSt} (h : Inv g₁ g₂ R s₁ s₂) {a b : Nat}
    (ha : ∀ y, (a, y) ∉ R) (hb : ∀ x, (x, b) ∉ R) :
    Inv g₁ g₂ ((a, b) :: R) (s₁.memoize C a) (s₂.memoize C b) :=
  ⟨(h.1.add ha hb).memoize (List.mem_cons_self ..),
    (h.2.add a b).known (fun _ e => (Option.some.inj e)) (fun _ => EncSt.Known.memoize a) (fun _ => EncSt.Known.memoize b)⟩

theorem Inv.addSee {g₁ g₂ : Heap} {R : Pairs} {s₁ s₂ : EncSt} (h : Inv g₁ g₂ R s₁ s₂) {a b : Nat}
    (ha : ∀ y, (a, y) ∉ R) (hb : ∀ x, (x, b) ∉ R) (h1 : IsHostAt g₁ a) (h2 : IsHostAt g₂ b) :
    Inv g₁ g₂ ((a, b) :: R) (s₁.see a) (s₂.see b) :=
  have hc := h.1.add ha hb
  have host : ∀ {g : Heap} {l : List Nat} {c : Nat}, (∀ x ∈ l, IsHostAt g x) → IsHostAt g c → ∀ x ∈ l ++ [c], IsHostAt g x :=
    fun hl hc x hx => (List.mem_append.mp hx).elim (hl x) fun hx => List.mem_singleton.mp hx ▸ hc
  ⟨{ hc with seen := hc.seen.snoc (List.mem_cons_self ..), host₁ := host hc.host₁ h1, host₂ := host hc.host₂ h2 },
    (h.2.add a b).known (fun _ e => (Option.some.inj e)) (fun _ => EncSt.Known.see a) (fun _ => EncSt.Known.see b)⟩

theorem not_seen {g : Heap} {l : List Nat} (host : ∀ a ∈ l, IsHostAt g a) {a : Nat} {o : Obj}
    (hg : g[a]? = some o) (hn : markName o = none) : a ∉ l := fun hs => by
  obtain ⟨o', n, h1, h2⟩ := host a hs
  cases hg.symm.trans h1; cases hn.symm.trans h2

theorem ofList_inj {l₁ l₂ : List Term} (h : Terms.ofList l₁ = Terms.ofList l₂) : l₁ = l₂ := by
  have := congrArg Terms.toList h
  rwa [Terms.toList_ofList, Terms.toList_ofList] at this

theorem tupleOf_inj {l₁ l₂ : List Term} (h : tupleOf l₁ = tupleOf l₂) : l₁ = l₂ := ofList_inj (Term.tuple.inj h)

/-- what a lockstep step establishes: an extension of `R` under which the final states are related, `P` holds,
and every added pair is good -/
def Step (g₁ g₂ : Heap) (R : Pairs) (s₁' s₂' : EncSt) (P : Pairs → Prop) : Prop :=
  ∃ R', (∀ p ∈ R, p ∈ R') ∧ Inv g₁ g₂ R' s₁' s₂' ∧ P R' ∧ (∀ p ∈ R', p ∉ R → GoodPair g₁ g₂ R' p)

/-- adding one good pair on top of a step -/
theorem finish {g₁ g₂ : Heap} {R R' : Pairs} {a b : Nat} (sub : ∀ p ∈ (a, b) :: R, p ∈ R')
    (N : ∀ p ∈ R', p ∉ (a, b) :: R → GoodPair g₁ g₂ R' p) (hab : GoodPair g₁ g₂ R' (a, b)) :
    ∀ p ∈ R', p ∉ R → GoodPair g₁ g₂ R' p := by
  intro p hp hn
  by_cases e : p = (a, b)
  · exact e ▸ hab
  · exact N p hp (fun h => (List.mem_cons.mp h).elim e hn)

section
variable {g₁ g₂ : Heap} {R : Pairs} {s₁ s₂ : EncSt} {P Q : Pairs → Prop}

theorem Step.same (h : Inv g₁ g₂ R s₁ s₂) (hp : P R) : Step g₁ g₂ R s₁ s₂ P :=
  ⟨R, fun _ h => h, h, hp, fun _ h1 h2 => absurd h1 h2⟩

theorem Step.imp (h : Step g₁ g₂ R s₁ s₂ P) (hPQ : ∀ R', P R' → Q R') : Step g₁ g₂ R s₁ s₂ Q :=
  let ⟨R', sub, I, p, N⟩ := h; ⟨R', sub, I, hPQ R' p, N⟩

/-- two steps in a row; what the first established must survive the growth of `R` -/
theorem Step.andThen {t₁ t₂ : EncSt} (hP : ∀ {R R' : Pairs}, (∀ p ∈ R, p ∈ R') → P R → P R') (h₁ : Step g₁ g₂ R s₁ s₂ P)
    (h₂ : ∀ R₁, Inv g₁ g₂ R₁ s₁ s₂ → Step g₁ g₂ R₁ t₁ t₂ Q) : Step g₁ g₂ R t₁ t₂ (fun R' => P R' ∧ Q R') := by
  obtain ⟨R₁, sub₁, I₁, p, N₁⟩ := h₁
  obtain ⟨R₂, sub₂, I₂, q, N₂⟩ := h₂ R₁ I₁
  refine ⟨R₂, fun p hp => sub₂ p (sub₁ p hp), I₂, ⟨hP sub₂ p, q⟩, fun p hp hn => ?_⟩
  by_cases h1 : p ∈ R₁
  · exact (N₁ p h1 hn).mono sub₂
  · exact N₂ p hp h1

theorem Step.memoize {a b : Nat} (h : Step g₁ g₂ R s₁ s₂ P) (hab : (a, b) ∈ R) :
    Step g₁ g₂ R (s₁.memoize C a) (s₂.memoize C b) P :=
  let ⟨R', sub, I, p, N⟩ := h; ⟨R', sub, I.memoize (sub _ hab), p, N⟩

theorem Step.node {a b : Nat} (h : Step g₁ g₂ ((a, b) :: R) s₁ s₂ (fun R' => GoodPair g₁ g₂ R' (a, b))) :
    Step g₁ g₂ R s₁ s₂ (fun R' => VSim g₁ g₂ R' (.ref a) (.ref b)) :=
  let ⟨R', sub, I, good, N⟩ := h
  ⟨R', fun p hp => sub p (List.mem_cons_of_mem _ hp), I, .node a b (sub _ (List.mem_cons_self ..)), finish sub N good⟩

variable {a b : Nat} {o₁ o₂ : Obj} {t₁ t₂ : EncSt} (hI : Inv g₁ g₂ R s₁ s₂)
  (hl : lookup s₁.memo a = none) (hl' : lookup s₂.memo b = none) (hg : g₁[a]? = some o₁) (hg' : g₂[b]? = some o₂)
include hI hl hl' hg hg'

/-- a list / dict / set / target / placeholder met on both sides: the new pair is memoised before its children -/
theorem Step.enterMemo (hn : markName o₁ = none) (hn' : markName o₂ = none)
    (kids : Inv g₁ g₂ ((a, b) :: R) (s₁.memoize C a) (s₂.memoize C b) →
      Step g₁ g₂ ((a, b) :: R) t₁ t₂ (fun R' => OSim g₁ g₂ R' o₁ o₂)) :
    Step g₁ g₂ R t₁ t₂ (fun R' => VSim g₁ g₂ R' (.ref a) (.ref b)) :=
  .node <| (kids (hI.addMemo (hI.fresh.1 (not_known hl (not_seen hI.1.host₁ hg hn)))
    (hI.fresh.2 (not_known hl' (not_seen hI.1.host₂ hg' hn'))))).imp fun _ ho => ⟨_, _, hg, hg', ho⟩

/-- a builtin / function / function code met on both sides, neither in progress: the new pair is in `seen` while its
children are walked, and memoised after them -/
theorem Step.enterSee {n₁ n₂ : Bytes} (hn : markName o₁ = some n₁) (hn' : markName o₂ = some n₂)
    (hi : indexOf s₁.seen a = none) (hi' : indexOf s₂.seen b = none)
    (kids : Inv g₁ g₂ ((a, b) :: R) (s₁.see a) (s₂.see b) → Step g₁ g₂ ((a, b) :: R) t₁ t₂ (fun R' => OSim g₁ g₂ R' o₁ o₂)) :
    Step g₁ g₂ R (t₁.memoize C a) (t₂.memoize C b) (fun R' => VSim g₁ g₂ R' (.ref a) (.ref b)) :=
  .node <| ((kids (hI.addSee (hI.fresh.1 (not_known hl ((indexOf_none _ _).mp hi)))
    (hI.fresh.2 (not_known hl' ((indexOf_none _ _).mp hi'))) ⟨_, _, hg, hn⟩ ⟨_, _, hg', hn'⟩)).imp
      fun _ ho => ⟨_, _, hg, hg', ho⟩).memoize (List.mem_cons_self ..)

end

/-- the lemma for the elements is a hypothesis: `lockstep` has it at the smaller fuel -/
theorem lockstepL (g₁ g₂ : Heap) (f₁ : Nat)
    (hE : ∀ f₂ s₁ s₂ v₁ v₂ s₁' s₂' t₁ t₂ R, Enc g₁ f₁ s₁ v₁ s₁' t₁ → Enc g₂ f₂ s₂ v₂ s₂' t₂ → t₁ = t₂ → Inv g₁ g₂ R s₁ s₂ →
      Step g₁ g₂ R s₁' s₂' (fun R' => VSim g₁ g₂ R' v₁ v₂)) :
    ∀ {xs f₂ s₁ s₂ ys s₁' s₂' ts₁ ts₂ R}, EncL g₁ f₁ s₁ xs s₁' ts₁ → EncL g₂ f₂ s₂ ys s₂' ts₂ → ts₁ = ts₂ → Inv g₁ g₂ R s₁ s₂ →
      Step g₁ g₂ R s₁' s₂' (fun R' => VSimL g₁ g₂ R' xs ys) := by
  intro xs
  induction xs with
  | nil =>
    intro f₂ s₁ s₂ ys s₁' s₂' ts₁ ts₂ R h₁ h₂ e hI
    cases h₁; subst e; cases h₂
    exact Step.same hI .nil
  | cons x xs ih =>
    intro f₂ s₁ s₂ ys s₁' s₂' ts₁ ts₂ R h₁ h₂ e hI
    cases h₁ with
    | cons _ _ _ _ m₁ t₁ _ ts₁' hx₁ hr₁ =>
      subst e
      cases h₂ with
      | cons _ _ y ys' m₂ _ _ _ hx₂ hr₂ =>
        exact ((hE _ _ _ _ _ _ _ _ _ _ hx₁ hx₂ rfl hI).andThen (fun sub => VSim.mono sub) fun _ I₁ => ih hr₁ hr₂ rfl I₁).imp
          fun _ ⟨V₁, V₂⟩ => .cons _ _ _ _ V₁ V₂

/-- if the traversals of `v₁` in `g₁` and of `v₂` in `g₂` return the same term from related encoder states, then `v₁`
and `v₂` are similar under an extension of `R`, every pair added is good, and the final states are related -/
theorem lockstep (g₁ g₂ : Heap) :
    ∀ f₁ f₂ s₁ s₂ v₁ v₂ s₁' s₂' t₁ t₂ R, Enc g₁ f₁ s₁ v₁ s₁' t₁ → Enc g₂ f₂ s₂ v₂ s₂' t₂ → t₁ = t₂ → Inv g₁ g₂ R s₁ s₂ →
      Step g₁ g₂ R s₁' s₂' (fun R' => VSim g₁ g₂ R' v₁ v₂) := by
  intro f₁
  induction f₁ with
  | zero =>
    intro f₂ s₁ s₂ v₁ v₂ s₁' s₂' t₁ t₂ R h₁ h₂ e hI
    cases h₁; subst e; cases h₂
    exact Step.same hI (.atom _)
  | succ f ih =>
  intro f₂ s₁ s₂ v₁ v₂ s₁' s₂' t₁ t₂ R h₁ h₂ e hI
  have hL := @lockstepL g₁ g₂ f ih
  subst e
  cases h₁ with
  | atom _ _ a => cases h₂; exact Step.same hI (.atom a)
  | hit _ _ a id hl =>
    cases h₂ with
    | hit _ _ b _ hl' =>
      obtain ⟨b', hab, hb'⟩ := hI.1.fwd a id hl
      cases hI.1.inj₂ _ _ _ hb' hl'
      exact Step.same hI (.node a _ hab)
  | tuple f _ a xs _ ts hl hg hs =>
    obtain ⟨l, e⟩ : ∃ l, tupleOf ts = .tuple l := ⟨_, rfl⟩
    rw [e] at h₂
    cases h₂ with
    | tuple _ _ b ys _ ts' hl' hg' hs' =>
      exact (hL hs hs' (tupleOf_inj e) hI).imp fun _ V => .tuple a b xs ys hg hg' V
  | list f _ a xs _ ts hl hg hs =>
    generalize e : Terms.ofList ts = l at h₂
    cases h₂ with
    | list _ _ b ys _ ts' hl' hg' hs' =>
      exact .enterMemo hI hl hl' hg hg' rfl rfl fun I₀ =>
        (hL hs hs' (ofList_inj e) I₀).imp fun _ => .list xs ys
  | dict f _ a kvs _ ts hl hg hs =>
    generalize e : Terms.ofList ts = l at h₂
    cases h₂ with
    | dict _ _ b kvs' _ ts' hl' hg' hs' =>
      exact .enterMemo hI hl hl' hg hg' rfl rfl fun I₀ =>
        (hL hs hs' (ofList_inj e) I₀).imp fun _ => .dict kvs kvs'
  | set f _ a xs _ ts hl hg hs =>
    generalize e : Terms.ofList ts = l at h₂
    cases h₂ with
    | set _ _ b ys _ ts' hl' hg' hs' =>
      exact .enterMemo hI hl hl' hg hg' rfl rfl fun I₀ =>
        (hL hs hs' (ofList_inj e) I₀).imp fun _ => .set xs ys
  | target f _ a l hl hg =>
    obtain ⟨_, b, _, rfl, hl', hr⟩ := h₂.inv_host (i := 0) rfl
    obtain ⟨l', hg', rfl, e⟩ := hr
    cases tupleOf_inj e
    exact .enterMemo hI hl hl' hg hg' rfl rfl fun I₀ => .same I₀ (.target l)
  | mandatory f _ a hl hg =>
    obtain ⟨_, b, _, rfl, hl', hr⟩ := h₂.inv_host (i := 1) rfl
    obtain ⟨hg', rfl, _⟩ := hr
    exact .enterMemo hI hl hl' hg hg' rfl rfl fun I₀ => .same I₀ .mandatory
  | marker f _ a o name idx hl hg hn hi =>
    obtain ⟨_, b, _, rfl, hl', hr⟩ := h₂.inv_host (i := 2) rfl
    obtain ⟨o', name', idx', hg', hn', hi', rfl, e⟩ := hr
    cases tupleOf_inj e
    have hab : (a, b) ∈ R := hI.1.seen.indexOf hi hi'
    exact .same (hI.memoize hab) (.node a b hab)
  | builtin f _ a name recv _ t hl hg hi hr =>
    obtain ⟨f₂, b, rfl, rfl, hl', hr'⟩ := h₂.inv_host (i := 3) rfl
    obtain ⟨name', recv', _, t', hg', hi', hr', rfl, e⟩ := hr'
    cases tupleOf_inj e
    exact .enterSee hI hl hl' hg hg' rfl rfl hi hi' fun I₀ =>
      (ih _ _ _ _ _ _ _ _ _ _ hr hr' rfl I₀).imp fun _ => .builtin name recv recv'
  | code f _ a name m gl bc sig s1 ts1 _ t2 hl hg hi hs hr =>
    obtain ⟨f₂, b, rfl, rfl, hl', hr'⟩ := h₂.inv_host (i := 4) rfl
    obtain ⟨name', m', gl', bc', sig', s1', ts1', _, t2', hg', hi', hs', hr', rfl, e⟩ := hr'
    obtain ⟨rfl, e'⟩ := List.append_inj (tupleOf_inj e) (hs.length.trans hs'.length.symm)
    cases e'
    exact .enterSee hI hl hl' hg hg' rfl rfl hi hi' fun I₀ =>
      ((hL hs hs' rfl I₀).andThen (fun sub => VSimL.mono sub) fun _ I₁ =>
        ih _ _ _ _ _ _ _ _ _ _ hr hr' rfl I₁).imp
          fun _ ⟨.cons _ _ _ _ hm (.cons _ _ _ _ hgl _), hsig⟩ => .code name name' m m' gl gl' bc sig sig' hm hgl hsig
  | func f _ a name d fv c _ ts hl hg hi hs =>
    obtain ⟨f₂, b, rfl, rfl, hl', hr'⟩ := h₂.inv_host (i := 5) rfl
    obtain ⟨name', d', fv', c', _, ts', hg', hi', hs', rfl, e⟩ := hr'
    exact .enterSee hI hl hl' hg hg' rfl rfl hi hi' fun I₀ =>
      (hL hs hs' (tupleOf_inj e) I₀).imp
        fun _ (.cons _ _ _ _ hd (.cons _ _ _ _ hfv (.cons _ _ _ _ hc _))) => .func name name' d d' fv fv' c c' hd hfv hc

/-- the environments below `r₁` in `g₁` and below `r₂` in `g₂` are the same up to the addresses of their objects (and
up to the identity of tuples): a one-to-one relation between object addresses under which the roots are similar and
related objects have the same kind, the same payload and similar children -/
def EnvIso (g₁ : Heap) (r₁ : Val) (g₂ : Heap) (r₂ : Val) : Prop :=
  ∃ R : Pairs, OneToOne R ∧ VSim g₁ g₂ R r₁ r₂ ∧ ∀ p ∈ R, GoodPair g₁ g₂ R p

/-- every clause is about a member of an empty list -/
theorem inv_empty (g₁ g₂ : Heap) : Inv g₁ g₂ [] {} {} := by
  refine ⟨⟨rfl, ?_, ?_, ?_, ?_, ?_, ?_, .nil, ⟨?_, ?_⟩, ?_, ?_⟩, fun _ _ _ => ?_⟩ <;> intros <;> contradiction

end Dawn.Env
