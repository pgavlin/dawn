import Dawn.Proofs.BuildInv
/-!
# Consistent states are unique: an incremental build equals a from-scratch build (C01, second formulation)

If every target of a dependency-closed, dependency-ordered list is `Consistent` in two states that agree on the files
no live target generates, the two states agree on every file those targets generate.
-/
namespace Dawn.Build

variable {P : Params} {S : Shape} {t : Tree} {o : Opts}

theorem observe_unique_aux (hc : Conforms S t) {wA wB : World}
    (hplain : ∀ p, Plain t p → wA.files p = wB.files p) :
    ∀ (rest seen : List Label),
      (∀ x ∈ seen, observe t wA x = observe t wB x ∧
        ∀ d, t.defs x = some d → d.kind = .fn → ∀ g ∈ d.gens, wA.files g = wB.files g) →
      (∀ x ∈ rest, ∀ d, t.defs x = some d → d.kind = .fn → Consistent P t wA x d ∧ Consistent P t wB x d) →
      Sorted t seen rest → ∀ x ∈ rest, observe t wA x = observe t wB x ∧
        ∀ d, t.defs x = some d → d.kind = .fn → ∀ g ∈ d.gens, wA.files g = wB.files g := by
  intro rest
  induction rest with
  | nil => intro _ _ _ _ x hx; cases hx
  | cons y rest ih =>
    intro seen hseen hcons hsorted
    -- what `y` reads was observed alike, so the two bodies computed the same
    have hgen : ∀ d, t.defs y = some d → d.kind = .fn → ∀ g ∈ d.gens, wA.files g = wB.files g := by
      intro d hd hk g hg
      obtain ⟨cA, cB⟩ := hcons y List.mem_cons_self d hd hk
      rw [cA g hg, cB g hg, List.map_congr_left fun z hz => by rw [(hseen z (hsorted.1 d hd z (hc.readsDeps y d hd hk z hz))).1]]
    have hy : observe t wA y = observe t wB y := by
      refine observe_files y rfl fun d hd => ⟨fun hk => ?_, hgen d hd⟩
      -- a live target generates the file (then it is an earlier dependency, by `link`) or the file is plain
      by_cases hex : ∃ l dl, t.defs l = some dl ∧ dl.kind = .fn ∧ d.path ∈ dl.gens
      · obtain ⟨l, dl, hdl, hkl, hg⟩ := hex
        have hown : S.owner d.path = some l := S.owned l dl.env _ (hc.gens l dl hdl hkl ▸ hg)
        exact (hseen l (hsorted.1 d hd l (hc.link y d hd hk l hown (by simp [hdl])))).2 dl hdl hkl _ hg
      · exact hplain _ fun l dl h1 h2 h3 => hex ⟨l, dl, h1, h2, h3⟩
    intro x hx
    rcases List.mem_cons.mp hx with rfl | e
    · exact ⟨hy, hgen⟩
    · refine ih (seen ++ [y]) (fun z hz => ?_) (fun z hz => hcons z (List.mem_cons_of_mem _ hz)) hsorted.2 x e
      rcases List.mem_append.mp hz with h | h
      · exact hseen z h
      · rw [List.mem_singleton.mp h]; exact ⟨hy, hgen⟩

theorem consistent_unique {P : Params} {S : Shape} {t : Tree} (hc : Conforms S t) {wA wB : World} (ord : List Label)
    (hplain : ∀ p, Plain t p → wA.files p = wB.files p)
    (hcons : ∀ x ∈ ord, ∀ d, t.defs x = some d → d.kind = .fn → Consistent P t wA x d ∧ Consistent P t wB x d)
    (hsorted : Sorted t [] ord) :
    ∀ x ∈ ord, ∀ d, t.defs x = some d → d.kind = .fn → ∀ g ∈ d.gens, wA.files g = wB.files g :=
  fun x hx => (observe_unique_aux hc hplain ord [] (fun _ h => nomatch h) hcons hsorted x hx).2

end Dawn.Build
