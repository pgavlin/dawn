import Dawn.Model.Env
/-!
`starlark.EqualDepth` on data that is acyclic and shallower than the limit: it never reports "comparison exceeded
maximum recursion depth", and an environment compares equal to itself — what `diffEnv` relied on before the
repair of D16 (C08_compare). Cyclic data is the excluded point (`equalDepth_gCyc` in `Proofs/EnvWitnesses.lean`).
-/
namespace Dawn.Env

/-- `Shallow g n v`: walking `v` in `g` to the bottom needs at most `n` nested `EqualDepth` calls
(so `g` is acyclic below `v` and at most `n` levels deep) -/
inductive Shallow (g : Heap) : Nat → Val → Prop
  | atom (n : Nat) (a : Atom) : Shallow g (n + 1) (.atom a)
  | tuple (n a : Nat) (xs : List Val) : g[a]? = some (.tuple xs) → (∀ x ∈ xs, Shallow g n x) → Shallow g (n + 1) (.ref a)
  | list (n a : Nat) (xs : List Val) : g[a]? = some (.list xs) → (∀ x ∈ xs, Shallow g n x) → Shallow g (n + 1) (.ref a)
  | dict (n a : Nat) (kvs : List (Val × Val)) : g[a]? = some (.dict kvs) → (∀ p ∈ kvs, Shallow g n p.2) →
      Shallow g (n + 1) (.ref a)
  | leaf (n a : Nat) (o : Obj) : g[a]? = some o → (∀ xs, o ≠ .tuple xs) → (∀ xs, o ≠ .list xs) → (∀ kvs, o ≠ .dict kvs) →
      Shallow g (n + 1) (.ref a)

theorem Shallow.succ {g : Heap} {n : Nat} {v : Val} (h : Shallow g n v) : Shallow g (n + 1) v := by
  induction h with
  | atom n a => exact .atom _ a
  | tuple n a xs hg _ ih => exact .tuple _ a xs hg ih
  | list n a xs hg _ ih => exact .list _ a xs hg ih
  | dict n a kvs hg _ ih => exact .dict _ a kvs hg ih
  | leaf n a o hg h1 h2 h3 => exact .leaf _ a o hg h1 h2 h3

theorem Shallow.mono {g : Heap} {n : Nat} {v : Val} (h : Shallow g n v) : ∀ m, n ≤ m → Shallow g m v := by
  intro m hm
  induction hm with
  | refl => exact h
  | step _ ih => exact ih.succ

def IsOk (r : CmpRes) : Prop := ∃ b, r = .ok b

theorem cmpSeq_ok (f : Val → Val → CmpRes) (xs : List Val) (hf : ∀ x ∈ xs, ∀ y, IsOk (f x y)) :
    ∀ ys, IsOk (cmpSeq f xs ys) := by
  induction xs with
  | nil => intro ys; cases ys <;> exact ⟨_, rfl⟩
  | cons x xs ih =>
    intro ys
    cases ys with
    | nil => exact ⟨_, rfl⟩
    | cons y ys =>
      obtain ⟨b, hb⟩ := hf x (List.mem_cons_self ..) y
      simp only [cmpSeq, hb]
      cases b with
      | false => exact ⟨_, rfl⟩
      | true => exact ih (fun z hz => hf z (List.mem_cons_of_mem _ hz)) ys

theorem findKey_mem (k : Val) (ys : List (Val × Val)) (v : Val) (h : findKey k ys = some v) : ∃ k', (k', v) ∈ ys := by
  induction ys with
  | nil => cases h
  | cons p rest ih =>
    obtain ⟨k', v'⟩ := p
    simp only [findKey] at h
    split at h
    · cases h; exact ⟨k', List.mem_cons_self ..⟩
    · obtain ⟨k'', hk⟩ := ih h; exact ⟨k'', List.mem_cons_of_mem _ hk⟩

theorem cmpDict_ok (f : Val → Val → CmpRes) (ys xs : List (Val × Val)) (hf : ∀ p ∈ xs, ∀ y, IsOk (f p.2 y)) :
    IsOk (cmpDict f ys xs) := by
  induction xs with
  | nil => exact ⟨_, rfl⟩
  | cons p rest ih =>
    obtain ⟨k, xv⟩ := p
    simp only [cmpDict]
    cases hk : findKey k ys with
    | none => exact ⟨_, rfl⟩
    | some yv =>
      obtain ⟨b, hb⟩ := hf (k, xv) (List.mem_cons_self ..) yv
      simp only [hb]
      cases b with
      | false => exact ⟨_, rfl⟩
      | true => exact ih (fun q hq => hf q (List.mem_cons_of_mem _ hq))

/-- with a reference on the left, `equalDepth` can fail only inside the comparison of the elements of two tuples or
two lists, or of the values of two dicts -/
theorem equalDepth_ref_ok {g h : Heap} {d a : Nat} {o : Obj} (hg : g[a]? = some o)
    (htup : ∀ xs, o = .tuple xs → ∀ ys, IsOk (cmpSeq (equalDepth g h d) xs ys))
    (hlist : ∀ xs, o = .list xs → ∀ ys, IsOk (cmpSeq (equalDepth g h d) xs ys))
    (hdict : ∀ kvs, o = .dict kvs → ∀ ys, IsOk (cmpDict (equalDepth g h d) ys kvs)) (y : Val) :
    IsOk (equalDepth g h (d + 1) (.ref a) y) := by
  cases y with
  | atom b => exact ⟨_, rfl⟩
  | ref b =>
    simp only [equalDepth]
    split
    · next xs ys hx _ => split; exact ⟨_, rfl⟩; exact htup xs (Option.some.inj (hg.symm.trans hx)) ys
    · next xs ys hx _ => split; exact ⟨_, rfl⟩; exact hlist xs (Option.some.inj (hg.symm.trans hx)) ys
    · next xs ys hx _ => split; exact ⟨_, rfl⟩; exact hdict xs (Option.some.inj (hg.symm.trans hx)) ys
    · split <;> exact ⟨_, rfl⟩
    · exact ⟨_, rfl⟩
    · exact ⟨_, rfl⟩

theorem equalDepth_ok (g h : Heap) {n : Nat} {x : Val} (hs : Shallow g n x) : ∀ y, IsOk (equalDepth g h n x y) := by
  induction hs with
  | atom n a => intro y; cases y <;> exact ⟨_, rfl⟩
  | tuple n a xs hg _ ih => exact equalDepth_ref_ok hg (fun _ e => by cases e; exact cmpSeq_ok _ xs ih) nofun nofun
  | list n a xs hg _ ih => exact equalDepth_ref_ok hg nofun (fun _ e => by cases e; exact cmpSeq_ok _ xs ih) nofun
  | dict n a kvs hg _ ih =>
    exact equalDepth_ref_ok hg nofun nofun (fun _ e ys => by cases e; exact cmpDict_ok _ ys kvs ih)
  | leaf n a o hg h1 h2 h3 =>
    exact equalDepth_ref_ok hg (fun xs e => absurd e (h1 xs)) (fun xs e => absurd e (h2 xs)) (fun kvs e => absurd e (h3 kvs))

theorem floatEq_refl (x : UInt64) : floatEq x x = true := by
  simp only [floatEq]
  split
  · rename_i h; simp only [Bool.or_self] at h; simp [h]
  · split <;> simp

theorem atomEq_refl (a : Atom) : atomEq a a = true := by
  cases a <;> simp [atomEq, floatEq_refl]

theorem keyEq_refl (v : Val) : keyEq v v = true := by
  cases v <;> simp [keyEq, atomEq_refl]

/-- the keys of every dict are pairwise different for the hash table (as in any real `*starlark.Dict`) -/
def KeysDistinct : List (Val × Val) → Prop
  | [] => True
  | (k, _) :: rest => (∀ p ∈ rest, keyEq p.1 k = false) ∧ KeysDistinct rest

def DictsDistinct (g : Heap) : Prop := ∀ (a : Nat) (kvs : List (Val × Val)), g[a]? = some (Obj.dict kvs) → KeysDistinct kvs

theorem cmpSeq_refl (f : Val → Val → CmpRes) (xs : List Val) (hf : ∀ x ∈ xs, f x x = .ok true) :
    cmpSeq f xs xs = .ok true := by
  induction xs with
  | nil => rfl
  | cons x xs ih =>
    simp only [cmpSeq, hf x (List.mem_cons_self ..)]
    exact ih (fun z hz => hf z (List.mem_cons_of_mem _ hz))

/-- comparing a suffix of a dict's entries against the whole dict -/
theorem cmpDict_refl (f : Val → Val → CmpRes) (pre suf : List (Val × Val)) (hd : KeysDistinct (pre ++ suf))
    (hf : ∀ p ∈ suf, f p.2 p.2 = .ok true) : cmpDict f (pre ++ suf) suf = .ok true := by
  induction suf generalizing pre with
  | nil => rfl
  | cons p rest ih =>
    obtain ⟨k, v⟩ := p
    have hfind : findKey k (pre ++ (k, v) :: rest) = some v := by
      clear ih hf
      induction pre with
      | nil => simp [findKey, keyEq_refl]
      | cons q pre ihp =>
        obtain ⟨k', v'⟩ := q
        simp only [List.cons_append, KeysDistinct] at hd
        have : keyEq k k' = false := hd.1 (k, v) (by simp)
        simp only [List.cons_append, findKey, this]
        exact ihp hd.2
    simp only [cmpDict, hfind, hf (k, v) (List.mem_cons_self ..)]
    have := ih (pre ++ [(k, v)]) (by simpa using hd) (fun q hq => hf q (List.mem_cons_of_mem _ hq))
    simpa using this

theorem all_any_refl (xs : List Val) : (xs.all fun k => xs.any fun k' => keyEq k k') = true := by
  simp only [List.all_eq_true, List.any_eq_true]
  intro x hx
  exact ⟨x, hx, keyEq_refl x⟩

theorem equalDepth_refl (g : Heap) (hk : DictsDistinct g) {n : Nat} {x : Val} (hs : Shallow g n x) :
    equalDepth g g n x x = .ok true := by
  induction hs with
  | atom n a => rw [equalDepth, atomEq_refl]
  | tuple n a xs hg _ ih =>
    rw [equalDepth, hg]
    exact (if_neg (fun h => h rfl)).trans (cmpSeq_refl _ xs ih)
  | list n a xs hg _ ih =>
    rw [equalDepth, hg]
    exact (if_neg (fun h => h rfl)).trans (cmpSeq_refl _ xs ih)
  | dict n a kvs hg _ ih =>
    rw [equalDepth, hg]
    exact (if_neg (fun h => h rfl)).trans (cmpDict_refl _ [] kvs (hk a kvs hg) ih)
  | leaf n a o hga h1 h2 h3 =>
    rw [equalDepth, hga]
    cases o with
    | tuple xs => exact absurd rfl (h1 xs)
    | list xs => exact absurd rfl (h2 xs)
    | dict kvs => exact absurd rfl (h3 kvs)
    | set xs => simp [all_any_refl]
    | _ => simp

/-! ### what `diffEnv` makes of a comparison error

Stated for arbitrary records and instantiated at the cyclic witness: at `gCyc` itself the kernel evaluates `equalDepth`
on the cyclic list down to `compareLimit`. -/

theorem diffEnvOld_error {o new : EnvRec} {e : CmpErr} (h : equalDepth o.heap new.heap compareLimit o.root new.root = .error e) :
    diffEnvOld (some o) new = .buildError "comparing function environments: comparison exceeded maximum recursion depth" := by
  rw [diffEnvOld, h]

theorem diffEnvFixed_error {o new : EnvRec} {e : CmpErr} (hd : o.data ≠ new.data)
    (h : equalDepth o.heap new.heap compareLimit o.root new.root = .error e) :
    diffEnvFixed (some o) new = .rerun "environment changed" := by
  rw [diffEnvFixed, if_neg hd, h]

end Dawn.Env
