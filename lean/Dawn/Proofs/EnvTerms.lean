import Dawn.Proofs.EnvBasic
/-!
Unique readability of the encoder's opcode streams (`serT_injective`).

`Term` is the shape of one `Encoder.encode` call: what is written for a value, as a tree. `serT` writes a term the way
the encoder does (arity rules for tuples, APPEND for one element, MARK … batches otherwise, STACK_GLOBAL / NEWOBJ /
MEMOIZE around host objects). `run` is the pickle decoder's stack machine reduced to what it needs to rebuild terms.
`reads`: running the machine over `serT t` pushes `t`; hence `serT` is injective (`serT_injective`).

Opcode streams are NOT prefix free (`[]` is written as a prefix of `[x]`), so this cannot be shown by comparing two
streams front to back; the stack machine is what makes the reading unambiguous.
-/
namespace Dawn.Env

mutual
inductive Term where
  | atom (a : Atom)
  | bg (id : Nat)                       -- BINGET: a value the encoder has memoised
  | tuple (ts : Terms)
  | list (ts : Terms)
  | dict (ts : Terms)                   -- keys and values alternating
  | set (ts : Terms)
  | host (name : Bytes) (args : Term)   -- STACK_GLOBAL "dawn" name, args, NEWOBJ, MEMOIZE
inductive Terms where
  | nil
  | cons (t : Term) (ts : Terms)
end

def Terms.toList : Terms → List Term
  | .nil => []
  | .cons t ts => t :: ts.toList

def Terms.ofList : List Term → Terms
  | [] => .nil
  | t :: ts => .cons t (Terms.ofList ts)

theorem Terms.toList_ofList (l : List Term) : (Terms.ofList l).toList = l := by
  induction l with
  | nil => rfl
  | cons t ts ih => simp [Terms.ofList, Terms.toList, ih]

theorem Terms.ofList_toList : ∀ ts : Terms, Terms.ofList ts.toList = ts
  | .nil => rfl
  | .cons t ts => by simp [Terms.ofList, Terms.toList, Terms.ofList_toList ts]

/-- `MARK elems… close` for every batch (no re-encoding of the container: `Cfg.reencode = false`) -/
def serBatches (n : Nat) (close : Op) (es : List (List Op)) : List Op :=
  (chunks n es).flatMap fun b => [.mark] ++ b.flatten ++ [close]

mutual
def serT (n : Nat) : Term → List Op
  | .atom a => encAtom a
  | .bg id => [.binget id]
  | .tuple ts =>
    let es := serTs n ts
    match es.length with
    | 0 => [.emptyTuple]
    | 1 => es.flatten ++ [.tuple1]
    | 2 => es.flatten ++ [.tuple2]
    | 3 => es.flatten ++ [.tuple3]
    | _ => [.mark] ++ es.flatten ++ [.tuple]
  | .list ts =>
    let es := serTs n ts
    match es with
    | [] => [.emptyList, .memoize]
    | [e] => [.emptyList, .memoize] ++ e ++ [.append]
    | _ => [.emptyList, .memoize] ++ serBatches n .appends es
  | .dict ts => [.emptyDict, .memoize] ++ serBatches (2 * n) .setitems (serTs n ts)
  | .set ts => [.emptySet, .memoize] ++ serBatches n .additems (serTs n ts)
  | .host name args => hostHeader name ++ serT n args ++ [.newobj, .memoize]
def serTs (n : Nat) : Terms → List (List Op)
  | .nil => []
  | .cons t ts => serT n t :: serTs n ts
end

theorem serTs_eq (n : Nat) : ∀ ts : Terms, serTs n ts = ts.toList.map (serT n)
  | .nil => by simp [serTs, Terms.toList]
  | .cons t ts => by simp [serTs, Terms.toList, serTs_eq n ts]

inductive Item where
  | tm (t : Term)
  | mark
  | global (name : Bytes)

/-- pop the items above the topmost MARK (returned in push order) and the MARK itself -/
def popToMark : List Item → List Term → Option (List Term × List Item)
  | [], _ => none
  | .mark :: rest, acc => some (acc, rest)
  | .tm t :: rest, acc => popToMark rest (t :: acc)
  | .global _ :: _, _ => none

def snocAll (ts : Terms) (vs : List Term) : Terms := Terms.ofList (ts.toList ++ vs)

def stepOp (op : Op) (stack : List Item) : Option (List Item) :=
  match op with
  | .mark => some (.mark :: stack)
  | .memoize => some stack
  | .stop => some stack
  | .binget id => some (.tm (.bg id) :: stack)
  | .none => some (.tm (.atom .none) :: stack)
  | .newtrue => some (.tm (.atom (.bool true)) :: stack)
  | .newfalse => some (.tm (.atom (.bool false)) :: stack)
  | .int i => some (.tm (.atom (.int i)) :: stack)
  | .float b => some (.tm (.atom (.float b)) :: stack)
  | .str s => some (.tm (.atom (.str s)) :: stack)
  | .bytes b => some (.tm (.atom (.bytes b)) :: stack)
  | .emptyList => some (.tm (.list .nil) :: stack)
  | .emptyDict => some (.tm (.dict .nil) :: stack)
  | .emptySet => some (.tm (.set .nil) :: stack)
  | .emptyTuple => some (.tm (.tuple .nil) :: stack)
  | .append =>
    match stack with
    | .tm v :: .tm (.list ts) :: rest => some (.tm (.list (snocAll ts [v])) :: rest)
    | _ => none
  | .appends =>
    match popToMark stack [] with
    | some (vs, .tm (.list ts) :: rest) => some (.tm (.list (snocAll ts vs)) :: rest)
    | _ => none
  | .setitems =>
    match popToMark stack [] with
    | some (vs, .tm (.dict ts) :: rest) => some (.tm (.dict (snocAll ts vs)) :: rest)
    | _ => none
  | .additems =>
    match popToMark stack [] with
    | some (vs, .tm (.set ts) :: rest) => some (.tm (.set (snocAll ts vs)) :: rest)
    | _ => none
  | .tuple1 =>
    match stack with
    | .tm a :: rest => some (.tm (.tuple (Terms.ofList [a])) :: rest)
    | _ => none
  | .tuple2 =>
    match stack with
    | .tm b :: .tm a :: rest => some (.tm (.tuple (Terms.ofList [a, b])) :: rest)
    | _ => none
  | .tuple3 =>
    match stack with
    | .tm c :: .tm b :: .tm a :: rest => some (.tm (.tuple (Terms.ofList [a, b, c])) :: rest)
    | _ => none
  | .tuple =>
    match popToMark stack [] with
    | some (vs, rest) => some (.tm (.tuple (Terms.ofList vs)) :: rest)
    | none => none
  | .stackGlobal =>
    match stack with
    | .tm (.atom (.str name)) :: .tm (.atom (.str _)) :: rest => some (.global name :: rest)
    | _ => none
  | .newobj =>
    match stack with
    | .tm args :: .global name :: rest => some (.tm (.host name args) :: rest)
    | _ => none

def run : List Op → List Item → Option (List Item)
  | [], stack => some stack
  | op :: ops, stack =>
    match stepOp op stack with
    | none => none
    | some stack' => run ops stack'

theorem run_append (a b : List Op) (stack : List Item) :
    run (a ++ b) stack = (run a stack).bind (run b) := by
  induction a generalizing stack with
  | nil => simp [run]
  | cons op ops ih =>
    simp only [List.cons_append, run]
    cases stepOp op stack with
    | none => simp
    | some s => simp [ih]

/-- running the machine over the serialisation of `t` pushes `t` -/
def Reads (n : Nat) (t : Term) : Prop :=
  ∀ rest stack, run (serT n t ++ rest) stack = run rest (.tm t :: stack)

theorem run_cons {op : Op} {stack s' : List Item} (h : stepOp op stack = some s') (ops : List Op) :
    run (op :: ops) stack = run ops s' := by
  rw [run, h]

def pushAll (l : List Term) (stack : List Item) : List Item := l.reverse.map Item.tm ++ stack

theorem pushAll_cons (t : Term) (l : List Term) (stack : List Item) :
    pushAll (t :: l) stack = pushAll l (.tm t :: stack) := by
  simp [pushAll]

theorem run_elems (n : Nat) (l : List Term) (hl : ∀ t ∈ l, Reads n t) (rest : List Op) (stack : List Item) :
    run ((l.map (serT n)).flatten ++ rest) stack = run rest (pushAll l stack) := by
  induction l generalizing stack with
  | nil => rfl
  | cons t l ih =>
    simp only [List.map_cons, List.flatten_cons, List.append_assoc]
    rw [hl t (List.mem_cons_self ..), ih (fun u hu => hl u (List.mem_cons_of_mem _ hu)), pushAll_cons]

theorem popToMark_map (r : List Term) (rest : List Item) (acc : List Term) :
    popToMark (r.map Item.tm ++ .mark :: rest) acc = some (r.reverse ++ acc, rest) := by
  induction r generalizing acc with
  | nil => rfl
  | cons t r ih => simp [popToMark, ih]

theorem popToMark_pushAll (l : List Term) (rest : List Item) :
    popToMark (pushAll l (.mark :: rest)) [] = some (l, rest) := by
  unfold pushAll
  rw [popToMark_map]
  simp

theorem snocAll_snocAll (ts : Terms) (a b : List Term) : snocAll (snocAll ts a) b = snocAll ts (a ++ b) := by
  simp [snocAll, Terms.toList_ofList]

theorem snocAll_nil (l : List Term) : snocAll .nil l = Terms.ofList l := rfl

/-- the four opcodes that close a `MARK`: they collect the terms pushed since -/
theorem step_tuple (vs : List Term) (rest : List Item) :
    stepOp .tuple (pushAll vs (.mark :: rest)) = some (.tm (.tuple (Terms.ofList vs)) :: rest) := by
  unfold stepOp
  simp only [popToMark_pushAll]
theorem step_appends (vs : List Term) (ts : Terms) (rest : List Item) :
    stepOp .appends (pushAll vs (.mark :: .tm (.list ts) :: rest)) = some (.tm (.list (snocAll ts vs)) :: rest) := by
  unfold stepOp
  simp only [popToMark_pushAll]
theorem step_setitems (vs : List Term) (ts : Terms) (rest : List Item) :
    stepOp .setitems (pushAll vs (.mark :: .tm (.dict ts) :: rest)) = some (.tm (.dict (snocAll ts vs)) :: rest) := by
  unfold stepOp
  simp only [popToMark_pushAll]
theorem step_additems (vs : List Term) (ts : Terms) (rest : List Item) :
    stepOp .additems (pushAll vs (.mark :: .tm (.set ts) :: rest)) = some (.tm (.set (snocAll ts vs)) :: rest) := by
  unfold stepOp
  simp only [popToMark_pushAll]

def serChunk (n : Nat) (close : Op) (c : List Term) : List Op := [Op.mark] ++ (c.map (serT n)).flatten ++ [close]

/-- the batch loop for a container under construction; `mk` is the container's constructor, `close` its batch opcode -/
theorem run_batches (n : Nat) (mk : Terms → Term) (close : Op)
    (hstep : ∀ vs ts rest, stepOp close (pushAll vs (.mark :: .tm (mk ts) :: rest)) = some (.tm (mk (snocAll ts vs)) :: rest))
    (cs : List (List Term)) (hl : ∀ c ∈ cs, ∀ t ∈ c, Reads n t) (ts0 : Terms) (rest : List Op) (stack : List Item) :
    run ((cs.flatMap (serChunk n close)) ++ rest) (.tm (mk ts0) :: stack)
      = run rest (.tm (mk (snocAll ts0 cs.flatten)) :: stack) := by
  induction cs generalizing ts0 with
  | nil => simp [snocAll, Terms.ofList_toList]
  | cons c cs ih =>
    have e : (List.flatMap (serChunk n close) (c :: cs)) ++ rest
        = Op.mark :: ((c.map (serT n)).flatten ++ (close :: (List.flatMap (serChunk n close) cs ++ rest))) := by
      simp [serChunk]
    rw [e, run_cons rfl, run_elems n c (hl c (List.mem_cons_self ..)), run_cons (hstep ..),
      ih (fun d hd => hl d (List.mem_cons_of_mem _ hd)), snocAll_snocAll, List.flatten_cons]

theorem serBatches_map (m n : Nat) (close : Op) (l : List Term) :
    serBatches m close (l.map (serT n)) = (chunks m l).flatMap (serChunk n close) := by
  simp only [serBatches, chunks_map, List.flatMap_map]
  rfl

theorem reads_tuple (n : Nat) (l : List Term) (hl : ∀ t ∈ l, Reads n t) : Reads n (.tuple (Terms.ofList l)) := by
  intro rest stack
  have elems := run_elems n l hl
  simp only [serT, serTs_eq, Terms.toList_ofList, List.length_map]
  rcases l with _ | ⟨a, _ | ⟨b, _ | ⟨c, _ | ⟨d, l'⟩⟩⟩⟩
  · rfl
  iterate 3
    simp only [List.length_cons, List.length_nil, List.append_assoc]
    rw [elems]; rfl
  · simp only [List.length_cons, List.append_assoc, List.cons_append, List.nil_append]
    rw [run_cons rfl, elems, run_cons (step_tuple ..)]

theorem reads_container (m n : Nat) (hm0 : m ≠ 0) (mk : Terms → Term) (open_ close : Op)
    (hopen : ∀ stack, stepOp open_ stack = some (.tm (mk .nil) :: stack))
    (hstep : ∀ vs ts rest, stepOp close (pushAll vs (.mark :: .tm (mk ts) :: rest)) = some (.tm (mk (snocAll ts vs)) :: rest))
    (l : List Term) (hl : ∀ t ∈ l, Reads n t) (rest : List Op) (stack : List Item) :
    run ([open_, .memoize] ++ serBatches m close (l.map (serT n)) ++ rest) stack = run rest (.tm (mk (Terms.ofList l)) :: stack) := by
  rw [List.append_assoc, List.cons_append, List.cons_append, List.nil_append, run_cons (hopen _), run_cons rfl,
    serBatches_map, run_batches n mk close hstep (chunks m l) (fun c hc t ht => hl t (mem_chunks m l c hc t ht)),
    chunks_flatten m hm0, snocAll_nil]

theorem reads_list (n : Nat) (hn : n ≠ 0) (l : List Term) (hl : ∀ t ∈ l, Reads n t) : Reads n (.list (Terms.ofList l)) := by
  intro rest stack
  simp only [serT, serTs_eq, Terms.toList_ofList]
  rcases l with _ | ⟨a, _ | ⟨b, l'⟩⟩
  · rfl
  · simp only [List.map_cons, List.map_nil, List.append_assoc, List.cons_append, List.nil_append]
    rw [run_cons rfl, run_cons rfl, hl a (List.mem_cons_self ..)]
    rfl
  · exact reads_container n n hn .list .emptyList .appends (fun _ => rfl) step_appends (a :: b :: l') hl rest stack

mutual
theorem reads (n : Nat) (hn : n ≠ 0) : ∀ t : Term, Reads n t
  | .atom a => by
    intro rest stack
    cases a with
    | bool b => cases b <;> rfl
    | _ => rfl
  | .bg id => fun _ _ => rfl
  | .tuple ts => by
    have h := reads_tuple n ts.toList (readsAll n hn ts)
    rwa [Terms.ofList_toList] at h
  | .list ts => by
    have h := reads_list n hn ts.toList (readsAll n hn ts)
    rwa [Terms.ofList_toList] at h
  | .dict ts => by
    intro rest stack
    have h := reads_container (2 * n) n (by omega) .dict .emptyDict .setitems (fun _ => rfl) step_setitems ts.toList (readsAll n hn ts) rest stack
    rw [Terms.ofList_toList] at h
    simpa only [serT, serTs_eq] using h
  | .set ts => by
    intro rest stack
    have h := reads_container n n hn .set .emptySet .additems (fun _ => rfl) step_additems ts.toList (readsAll n hn ts) rest stack
    rw [Terms.ofList_toList] at h
    simpa only [serT, serTs_eq] using h
  | .host name args => by
    intro rest stack
    simp only [serT, hostHeader, List.append_assoc, List.cons_append, List.nil_append]
    rw [run_cons rfl, run_cons rfl, run_cons rfl, reads n hn args]
    rfl
theorem readsAll (n : Nat) (hn : n ≠ 0) : ∀ ts : Terms, ∀ t ∈ ts.toList, Reads n t
  | .nil => by intro t ht; simp [Terms.toList] at ht
  | .cons u ts => fun t ht => by
    simp only [Terms.toList, List.mem_cons] at ht
    cases ht with
    | inl h => exact h ▸ reads n hn u
    | inr h => exact readsAll n hn ts t h
end

/-- the opcode stream of a term determines the term -/
theorem serT_injective (n : Nat) (hn : n ≠ 0) (t₁ t₂ : Term) (h : serT n t₁ = serT n t₂) : t₁ = t₂ := by
  have h1 := reads n hn t₁ [] []
  rw [h, reads n hn t₂ [] []] at h1
  exact (Item.tm.inj (List.cons.inj (Option.some.inj h1)).1).symm

end Dawn.Env
