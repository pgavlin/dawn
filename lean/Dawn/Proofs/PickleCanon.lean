import Dawn.Proofs.PickleEnc
/-! The canonical walk (`walkVal`, written without reference to opcodes, memo ids or bytes) is the encoder with the ops
forgotten: on every state and value the two succeed together and leave corresponding states. So the graphs the
encoder accepts are exactly the canonical ones, and what is known about the encoder's fuel holds of the walk. -/
namespace Dawn.Pickle

abbrev EncSt.walk (es : EncSt) : WalkSt := ⟨es.memo.map (·.1), es.next⟩

theorem contains_walk (es : EncSt) (a : Nat) : es.walk.seen.contains a = (lookup es.memo a).isSome := by
  simp only [lookup, Option.isSome_map]
  induction es.memo with
  | nil => rfl
  | cons p m ih =>
    simp only [List.map_cons, List.contains_cons, List.find?_cons, ih, BEq.comm (a := a)]
    cases p.1 == a <;> rfl

def Shadow {α : Type} (w : WalkSt → α → Option WalkSt) (e : Enc α) : Prop :=
  ∀ es x, w es.walk x = (e es x).map (·.1.walk)

theorem walkSeq_cons (f : WalkSt → Val → Option WalkSt) (st : WalkSt) (x : Val) (xs : List Val) :
    walkSeq f st (x :: xs) = (f st x).bind (walkSeq f · xs) := by
  rw [walkSeq]; cases f st x <;> rfl

theorem walkSeq_one (f : WalkSt → Val → Option WalkSt) (st : WalkSt) (x : Val) : walkSeq f st [x] = f st x := by
  rw [walkSeq_cons]; cases f st x <;> rfl

theorem walkSeq_atoms {α : Type} (g : Heap) (k : Nat) (st : WalkSt) (f : α → Atom) (l : List α) :
    walkSeq (walkVal g k) st (l.map fun i => .atom (f i)) = some st := by
  induction l with
  | nil => rfl
  | cons x l ih => cases k <;> simpa [walkSeq, walkVal] using ih

theorem walkSeq_append (f : WalkSt → Val → Option WalkSt) : ∀ (xs ys : List Val) (st : WalkSt),
    walkSeq f st (xs ++ ys) = (walkSeq f st xs).bind (walkSeq f · ys) := by
  intro xs
  induction xs with
  | nil => intro ys st; rfl
  | cons x xs ih =>
    intro ys st
    simp only [List.cons_append, walkSeq_cons]
    cases f st x with
    | none => rfl
    | some st1 => exact ih ys st1

theorem walkSeq_shadow {w : WalkSt → Val → Option WalkSt} {e : Enc Val} (h : Shadow w e) :
    Shadow (walkSeq w) (encSeq e) := by
  intro es xs
  induction xs generalizing es with
  | nil => rfl
  | cons x xs ih =>
    rw [walkSeq_cons, encSeq_cons, h]
    cases e es x with
    | none => rfl
    | some p => simp only [Option.map_some, Option.bind_some, ih, Option.map_map]; rfl

theorem walkSeq_batches {w : WalkSt → Val → Option WalkSt} {e : Enc Val} (h : Shadow w e) (rb : Bool) (self close : Op) :
    ∀ (cs : List (List Val)) (first : Bool) (es : EncSt),
      walkSeq w es.walk cs.flatten = (encBatches e rb self close first es cs).map (·.1.walk) := by
  intro cs
  induction cs with
  | nil => intro _ _; rfl
  | cons c cs ih =>
    intro first es
    simp only [List.flatten_cons, walkSeq_append, encBatches_cons, walkSeq_shadow h es c]
    cases encSeq e es c with
    | none => rfl
    | some p => simp only [Option.map_some, Option.bind_some, Option.map_map]; exact ih false p.1

theorem flattenPairs_flatten (cs : List (List (Val × Val))) : (cs.map flattenPairs).flatten = flattenPairs cs.flatten := by
  induction cs with
  | nil => rfl
  | cons c cs ih => simp only [List.map_cons, List.flatten_cons, ih, flattenPairs, List.flatMap_append]

theorem walkSeq_chunks {w : WalkSt → Val → Option WalkSt} {e : Enc Val} (h : Shadow w e) (rb : Bool) (self close : Op)
    (first : Bool) (es : EncSt) (xs : List Val) :
    walkSeq w es.walk xs = (encBatches e rb self close first es (chunks batchSize xs.length xs)).map (·.1.walk) := by
  have := walkSeq_batches h rb self close (chunks batchSize xs.length xs) first es
  rwa [chunks_flatten batchSize (by decide) _ xs (Nat.le_refl _)] at this

theorem walkSeq_chunks_pairs {w : WalkSt → Val → Option WalkSt} {e : Enc Val} (h : Shadow w e) (rb : Bool)
    (self close : Op) (first : Bool) (es : EncSt) (kvs : List (Val × Val)) :
    walkSeq w es.walk (flattenPairs kvs) =
      (encBatches e rb self close first es ((chunks batchSize kvs.length kvs).map flattenPairs)).map (·.1.walk) := by
  have := walkSeq_batches h rb self close ((chunks batchSize kvs.length kvs).map flattenPairs) first es
  rwa [flattenPairs_flatten, chunks_flatten batchSize (by decide) _ kvs (Nat.le_refl _)] at this

theorem EncSt.walk_memo (es : EncSt) (a id : Nat) :
    (⟨(a, id) :: es.memo, es.next + 1⟩ : EncSt).walk = ⟨a :: es.walk.seen, es.walk.next + 1⟩ := rfl

theorem shadow_if {α β : Type} {c : Prop} [Decidable c] {x : Option α} {y : Option β} {f : β → α} (h : c → x = y.map f) :
    (if c then x else none) = (if c then y else none).map f := by
  split
  · exact h ‹c›
  · rfl

theorem walkVal_shadow (cfg : EncCfg) (hp : cfg.pickler = true) (g : Heap) :
    ∀ n, Shadow (walkVal g n) (encVal cfg g n) := by
  intro n
  induction n with
  | zero => intro es v; cases v <;> rfl
  | succ n ih =>
    intro es v
    cases v with
    | atom a => rfl
    | mark => rfl
    | global i m k => rfl
    | ref a =>
      have hs := walkSeq_shadow ih
      have hb := walkSeq_chunks ih cfg.rebatch
      have hd := walkSeq_chunks_pairs ih cfg.rebatch
      rw [walkVal, encVal, contains_walk]
      cases lookup es.memo a with
      | some id => rfl
      | none =>
        simp only [Option.isSome_none, Bool.false_eq_true, if_false]
        split
        · rfl
        · rw [hs]
          cases encSeq (encVal cfg g n) es _ with
          | none => rfl
          | some p => by_cases ha : a = p.1.next <;> simp [ha]
        · refine shadow_if fun _ => ?_
          rw [← es.walk_memo a es.memo.length]
          split
          · rfl
          · rw [walkSeq_one, ih]
            cases encVal cfg g n _ _ <;> rfl
          · rw [hb]
            cases encBatches (encVal cfg g n) _ _ _ _ _ _ <;> rfl
        · refine shadow_if fun _ => ?_
          rw [← es.walk_memo a es.memo.length, hd]
          cases encBatches (encVal cfg g n) _ _ _ _ _ _ <;> rfl
        · refine shadow_if fun _ => ?_
          rw [← es.walk_memo a es.memo.length, hb]
          cases encBatches (encVal cfg g n) _ _ _ _ _ _ <;> rfl
        · rw [hp]
          split
          · split
            · rw [ih]
              cases encVal cfg g n es _ with
              | none => rfl
              | some p => by_cases ha : a = p.1.next <;> simp [ha]
            · rfl
          · rfl

/-- at the start both have seen nothing: `⟨[], 0⟩` is the walk state of the encoder's `⟨[], 0⟩` -/
theorem walkVal_init (cfg : EncCfg) (hp : cfg.pickler = true) (g : Heap) (n : Nat) (v : Val) :
    walkVal g n ⟨[], 0⟩ v = (encVal cfg g n ⟨[], 0⟩ v).map (·.1.walk) := walkVal_shadow cfg hp g n ⟨[], 0⟩ v

theorem canonical_eq_encodes (cfg : EncCfg) (hp : cfg.pickler = true) (g : Graph) :
    g.canonical = (encodeOps cfg g).isSome := by
  rw [Graph.canonical, encodeOps, walkVal_init cfg hp]
  cases encVal cfg g.heap (g.heap.length + 1) ⟨[], 0⟩ g.root with
  | none => rfl
  | some p => by_cases h : p.1.next = g.heap.length <;> simp [h]

end Dawn.Pickle
