import Dawn.Model.Pickle
/-! Byte layer of the pickle model: every parsed op consumes at least one byte; `parseOp` inverts `ser`. -/
namespace Dawn.Pickle

theorem readLine_suffix : ∀ (bs l r : Bytes), readLine bs = some (l, r) → r <:+ bs := by
  intro bs
  induction bs with
  | nil => intro l r h; cases h
  | cons c rest ih =>
    intro l r h
    rw [readLine] at h
    split at h
    · cases h; exact List.suffix_cons c rest
    · split at h <;> cases h
      exact (ih _ _ ‹_›).trans (List.suffix_cons c rest)

theorem parseStr_suffix {mk : Bytes → Op} {n : Nat} {bs : Bytes} {o : Op} {rest : Bytes}
    (h : parseStr mk n bs = .op o rest) : rest <:+ bs := by
  rw [parseStr, readN] at h
  split at h <;> cases h
  rename_i hs
  split at hs <;> cases hs
  exact List.drop_suffix n bs

/-- what an arm leaves is an end of what it was given: the input itself (no payload), the input after the bytes of a
fixed-width field, and of that what `parseStr` or `readLine` leave -/
theorem parseArm_suffix {arm : Op} {bs : Bytes} {o : Op} {rest : Bytes} (h : parseArm arm bs = .op o rest) :
    rest <:+ bs := by
  cases arm
  case int =>
    rw [parseArm] at h
    split at h <;> cases h
    exact readLine_suffix _ _ _ ‹_›
  case binget | binint1 =>
    rcases bs with _ | ⟨x, r⟩ <;> cases h
    exact ⟨[x], rfl⟩
  case shortBinunicode | shortBinbytes =>
    rcases bs with _ | ⟨x, r⟩
    · cases h
    · exact (parseStr_suffix h).trans ⟨[x], rfl⟩
  case binint2 =>
    rcases bs with _ | ⟨x, _ | ⟨y, r⟩⟩ <;> cases h
    exact ⟨[x, y], rfl⟩
  case longBinget | binint =>
    rcases bs with _ | ⟨x, _ | ⟨y, _ | ⟨z, _ | ⟨w, r⟩⟩⟩⟩ <;> cases h
    exact ⟨[x, y, z, w], rfl⟩
  case binunicode | binbytes =>
    rcases bs with _ | ⟨x, _ | ⟨y, _ | ⟨z, _ | ⟨w, r⟩⟩⟩⟩ <;> try cases h
    exact (parseStr_suffix h).trans ⟨[x, y, z, w], rfl⟩
  case binfloat =>
    rcases bs with _ | ⟨x, _ | ⟨y, _ | ⟨z, _ | ⟨w, _ | ⟨x', _ | ⟨y', _ | ⟨z', _ | ⟨w', r⟩⟩⟩⟩⟩⟩⟩⟩ <;> cases h
    exact ⟨[x, y, z, w, x', y', z', w'], rfl⟩
  all_goals
    cases h
    exact List.suffix_refl _

theorem parseOp_length (bs : Bytes) (o : Op) (rest : Bytes) (h : parseOp bs = .op o rest) :
    rest.length < bs.length := by
  cases bs with
  | nil => cases h
  | cons b bs =>
    rw [parseOp] at h
    split at h
    · exact Nat.lt_succ_of_le (parseArm_suffix h).length_le
    · cases h

theorem byte_toNat (n : Nat) : (byte n).toNat = n % 256 := by
  simp [byte]

theorem rd32_byte (n : Nat) :
    rd32 (byte n) (byte (n / 256)) (byte (n / 65536)) (byte (n / 16777216)) = n % 4294967296 := by
  simp only [rd32, byte_toNat]; omega

theorem ser_le32 (b : UInt8) (n : Nat) (rest : Bytes) : b :: (le32 n ++ rest) =
    b :: byte n :: byte (n / 256) :: byte (n / 65536) :: byte (n / 16777216) :: rest := by simp [le32]

theorem parseStr_append (mk : Bytes → Op) (s rest : Bytes) : parseStr mk s.length (s ++ rest) = .op (mk s) rest := by
  simp [parseStr, readN]

theorem readLine_append : ∀ (text rest : Bytes), newline ∉ text → readLine (text ++ newline :: rest) = some (text, rest) := by
  intro text
  induction text with
  | nil => intro rest _; simp [readLine]
  | cons c t ih =>
    intro rest h
    simp only [List.mem_cons, not_or] at h
    simp only [List.cons_append, readLine, if_neg (Ne.symm h.1), ih rest h.2]

theorem parseOp_cons (b : UInt8) (bs : Bytes) (arm : Op) (h : armOf b = some arm) : parseOp (b :: bs) = parseArm arm bs := by
  simp only [parseOp, h]

theorem parse0 {b : UInt8} {o : Op} (harm : armOf b = some o) (hp : ∀ bs, parseArm o bs = .op o bs) (rest : Bytes) :
    parseOp (b :: rest) = .op o rest := by
  rw [parseOp_cons _ _ _ harm, hp]

theorem parse1 {b : UInt8} {arm : Op} (harm : armOf b = some arm) {k : Nat → Bytes → Parsed}
    (hk : ∀ x r, parseArm arm (x :: r) = k x.toNat r) {n : Nat} (hn : n < 256) (rest : Bytes) :
    parseOp (b :: byte n :: rest) = k n rest := by
  rw [parseOp_cons _ _ _ harm, hk, byte_toNat, Nat.mod_eq_of_lt hn]

theorem parse4 {b : UInt8} {arm : Op} (harm : armOf b = some arm) {k : Nat → Bytes → Parsed}
    (hk : ∀ x y z w r, parseArm arm (x :: y :: z :: w :: r) = k (rd32 x y z w) r) {n : Nat} (hn : n < 4294967296)
    (rest : Bytes) : parseOp (b :: (le32 n ++ rest)) = k n rest := by
  rw [ser_le32, parseOp_cons _ _ _ harm, hk, rd32_byte, Nat.mod_eq_of_lt hn]

theorem parseOp_ser (op : Op) (rest : Bytes) (hw : op.wf) : parseOp (ser op ++ rest) = .op op rest := by
  cases op
  case binget id => exact parse1 (arm := .binget 0) (by decide) (k := fun n r => .op (.binget n) r) (fun _ _ => rfl) hw rest
  case binint1 n => exact parse1 (arm := .binint1 0) (by decide) (k := fun n r => .op (.binint1 n) r) (fun _ _ => rfl) hw rest
  case shortBinunicode s =>
    exact (parse1 (arm := .shortBinunicode []) (by decide) (k := parseStr .shortBinunicode) (fun _ _ => rfl) hw _).trans
      (parseStr_append _ s rest)
  case shortBinbytes s =>
    exact (parse1 (arm := .shortBinbytes []) (by decide) (k := parseStr .shortBinbytes) (fun _ _ => rfl) hw _).trans
      (parseStr_append _ s rest)
  case longBinget id =>
    exact parse4 (arm := .longBinget 0) (by decide) (k := fun n r => .op (.longBinget n) r) (fun _ _ _ _ _ => rfl) hw rest
  case binint w => exact parse4 (arm := .binint 0) (by decide) (k := fun n r => .op (.binint n) r) (fun _ _ _ _ _ => rfl) hw rest
  case binunicode s =>
    exact (parse4 (arm := .binunicode []) (by decide) (k := parseStr .binunicode) (fun _ _ _ _ _ => rfl) hw _).trans
      (parseStr_append _ s rest)
  case binbytes s =>
    exact (parse4 (arm := .binbytes []) (by decide) (k := parseStr .binbytes) (fun _ _ _ _ _ => rfl) hw _).trans
      (parseStr_append _ s rest)
  case binint2 l h =>
    show parseOp (opBININT2 :: byte l :: byte h :: rest) = _
    rw [parseOp_cons _ _ (.binint2 0 0) (by decide)]
    simp only [parseArm, byte_toNat, Nat.mod_eq_of_lt hw.1, Nat.mod_eq_of_lt hw.2]
  case binfloat w =>
    -- two four-byte halves
    have hw : w < 18446744073709551616 := hw   -- `Op.wf` of this op, spelled out for `omega`
    show parseOp (opBINFLOAT :: (le32 w ++ (le32 (w / 4294967296) ++ rest))) = _
    rw [ser_le32, ser_le32, parseOp_cons _ _ (.binfloat 0) (by decide)]
    simp only [parseArm, rd32_byte]
    congr 2
    omega
  case int text =>
    rw [show ser (.int text) ++ rest = opINT :: (text ++ newline :: rest) by simp [ser],
      parseOp_cons _ _ (.int []) (by decide)]
    simp only [parseArm, readLine_append text rest hw]
  all_goals exact parse0 (by decide) (fun _ => rfl) rest

theorem ser_length_pos (op : Op) : 0 < (ser op).length := by
  cases op <;> exact Nat.succ_pos _

theorem serAll_cons (op : Op) (ops : List Op) : serAll (op :: ops) = ser op ++ serAll ops := by
  simp [serAll]

theorem serAll_append (xs ys : List Op) : serAll (xs ++ ys) = serAll xs ++ serAll ys := by
  simp [serAll]

theorem serAll_length_ge (ops : List Op) : ops.length ≤ (serAll ops).length := by
  induction ops with
  | nil => simp [serAll]
  | cons op ops ih =>
    rw [serAll_cons]
    have := ser_length_pos op
    simp only [List.length_cons, List.length_append]; omega

theorem serAll_injective : ∀ (ops₁ ops₂ : List Op), (∀ op ∈ ops₁, op.wf) → (∀ op ∈ ops₂, op.wf) →
    serAll ops₁ = serAll ops₂ → ops₁ = ops₂ := by
  have nonempty : ∀ (b : Op) (bs : List Op), serAll (b :: bs) ≠ [] := by
    intro b bs h
    have := ser_length_pos b
    have hl := congrArg List.length h
    simp only [serAll_cons, List.length_append, List.length_nil] at hl
    omega
  intro ops₁
  induction ops₁ with
  | nil =>
    intro ops₂ _ _ h
    cases ops₂ with
    | nil => rfl
    | cons b bs => exact absurd h.symm (nonempty b bs)
  | cons a as ih =>
    intro ops₂ h1 h2 h
    cases ops₂ with
    | nil => exact absurd h (nonempty a as)
    | cons b bs =>
      rw [serAll_cons, serAll_cons] at h
      have pa := parseOp_ser a (serAll as) (h1 a (by simp))
      rw [h, parseOp_ser b (serAll bs) (h2 b (by simp))] at pa
      simp only [Parsed.op.injEq] at pa
      obtain ⟨rfl, hrest⟩ := pa
      rw [ih bs (fun o ho => h1 o (by simp [ho])) (fun o ho => h2 o (by simp [ho])) hrest.symm]

end Dawn.Pickle
