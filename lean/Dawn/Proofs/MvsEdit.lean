import Dawn.Proofs.MvsReqList
/-!
# Requirement edits (C11)

* why the requirements `ReqList` extracts from a build list resolve to that build list again (`reqList_resolves`);
* `transformReqs`: which requirements and which names the written project file has;
* operation, then `ReqList`, then the file: the file resolves to the operation's build list (`edit_via_reqList`), for `Tidy`,
  `mvs.Upgrade` / `mvs.UpgradeAll` (`UpSetting`, `upgrade_general`) and the add / no-op / upgrade branches of `get`
  (`get_upgrade`, `get_upgrade_exact`);
* repeating an edit changes nothing (`edit_again`, `tidy_idem`, `upgradeAll_idem`, `get_landed_noop`).
-/
namespace Dawn.Mvs

structure Closed (e : Env) (A : Mod → Prop) : Prop where
  ok : ∀ m, A m → okReq m
  step : ∀ n s m, A n → e.summary n = some s → m ∈ s.reqs → A m

theorem Closed.required {e : Env} {A : Mod → Prop} (hA : Closed e A) {root r : List Mod} {a b : Mod}
    (ha : A a) (hr : (dawnReqs e root).required a = some r) (hb : b ∈ r) : A b := by
  obtain ⟨s, hs, rfl⟩ := (dawnReqs_required_some (hA.ok a ha)).mp hr
  exact hA.step a s b ha hs hb

theorem reqList_min_ok {e : Env} {anyroot list min : List Mod} {fuel : Nat}
    {A : Mod → Prop} (hA : Closed e A)
    (hnd : (list.map (·.path)).Nodup)
    (hL : ∀ m ∈ list, m ≠ rootMod → A m)
    (hreq : reqList fuel (dawnReqs e anyroot) rootMod list = .ok min) :
    ∀ x ∈ min, x ∈ list ∧ A x := by
  obtain ⟨s1, _, s3⟩ := reqList_sound hnd hreq
  intro x hx
  have hAx : A x :=
    s3 (fun m => m ≠ rootMod → A m) (fun h => absurd rfl h) hL
      (fun a r b ha hne hr hb _ => hA.required (ha hne) hr hb) x hx (s1 x hx).1
  refine ⟨?_, hAx⟩
  -- the list gives x's path the version x has, and that is not the `""` a missing path would read as
  obtain ⟨_, sv, hsv⟩ := hA.ok x hAx
  have h2 := (s1 x hx).2
  cases hl : (listMap list).lookup x.path with
  | none => rw [hl, hsv] at h2; cases h2
  | some v =>
    rw [hl, Option.getD_some] at h2
    exact (lookup_listMap_some list hnd x.path _).mp (h2 ▸ hl)

theorem reqList_reached {e : Env} {anyroot list min roots' : List Mod} {fuel : Nat} {A : Mod → Prop} (hA : Closed e A)
    (hnd : (list.map (·.path)).Nodup)
    (hL : ∀ m ∈ list, m ≠ rootMod → A m)
    (hreq : reqList fuel (dawnReqs e anyroot) rootMod list = .ok min)
    (up : Option (Mod → Option Mod)) (hsame : ∀ x ∈ min, x ∈ roots') :
    ∀ m ∈ list, Reach (dawnReqs e roots') up rootMod m := by
  intro m hm
  by_cases hne : m = rootMod
  · exact hne ▸ Reach.root
  obtain ⟨s, hs, hr⟩ := (reqList_sound hnd hreq).2.1 m hm hne
  have key : ∀ m, RReach (dawnReqs e anyroot) rootMod s m → A m ∧ Reach (dawnReqs e roots') up rootMod m := by
    intro m hr
    induction hr with
    | refl => exact ⟨(reqList_min_ok hA hnd hL hreq s hs).2, Reach.root.req Ver.noConfusion rfl (hsame s hs)⟩
    | step a b r _ _ hr hb ih =>
      have hok := hA.ok a ih.1
      exact ⟨hA.required ih.1 hr hb,
        ih.2.req (okReq_ver_ne_none hok) ((dawnReqs_required_congr e _ _ hok.1).trans hr) hb⟩
  exact (key m hr).2

theorem buildListWith_mem_of_selection {fuel : Nat} {rq : Reqs} {up : Option (Mod → Option Mod)} {target : Mod}
    {bl list : List Mod} {A : Mod → Prop} (h : buildListWith fuel rq up target = .ok bl)
    (hsub : ∀ m, Reach rq up target m → m.ver ≠ .none → A m)
    (hsup : ∀ m ∈ list, Reach rq up target m)
    (hL : ∀ m ∈ list, m.ver ≠ .none ∧ ∀ w, A ⟨m.path, w⟩ → Ver.le w m.ver)
    (hcov : ∀ m, A m → ∃ v, (⟨m.path, v⟩ : Mod) ∈ list) (m : Mod) : m ∈ bl ↔ m ∈ list := by
  obtain ⟨p, v⟩ := m
  rw [buildListWith_exact h]
  constructor
  · rintro ⟨hv, hr, hmax⟩
    obtain ⟨v', hv'⟩ := hcov _ (hsub _ hr hv)
    have h1 : Ver.le v' v := hmax v' (hsup _ hv')
    have h2 : Ver.le v v' := (hL _ hv').2 v (hsub _ hr hv)
    exact Ver.le_antisymm h1 h2 ▸ hv'
  · intro hm
    refine ⟨(hL _ hm).1, hsup _ hm, fun w hw => ?_⟩
    by_cases hw0 : w = .none
    · exact hw0 ▸ Ver.none_le _
    · exact (hL _ hm).2 w (hsub _ hw hw0)

theorem buildListWith_sandwich {f1 f2 : Nat} {rq1 rq2 : Reqs} {up1 up2 : Option (Mod → Option Mod)} {target : Mod}
    {bl1 bl2 : List Mod} (h1 : buildListWith f1 rq1 up1 target = .ok bl1) (h2 : buildListWith f2 rq2 up2 target = .ok bl2)
    (hsub : ∀ m, Reach rq2 up2 target m → Reach rq1 up1 target m) (hsup : ∀ m ∈ bl1, Reach rq2 up2 target m) :
    bl2 = bl1 := by
  refine buildListWith_ext h2 h1 (buildListWith_mem_of_selection h2 (A := fun m => Reach rq1 up1 target m ∧ m.ver ≠ .none)
    (fun m hr hv => ⟨hsub m hr, hv⟩) hsup (fun ⟨p, v⟩ hm => ?_) (fun ⟨p, v⟩ hm => ?_))
  · have hex := (buildListWith_exact h1 p v).mp hm
    exact ⟨hex.1, fun w hw => hex.2.2 w hw.1⟩
  · obtain ⟨v', hv', _⟩ := buildListWith_covers h1 p v hm.1 hm.2
    exact ⟨v', hv'⟩

theorem reqList_resolves {e : Env} {anyroot list min roots' bl' : List Mod} {fuel fuel' : Nat}
    {A : Mod → Prop} (hA : Closed e A)
    (hnd : (list.map (·.path)).Nodup) (hroot : rootMod ∈ list)
    (hL : ∀ m ∈ list, m ≠ rootMod → A m ∧ ∀ w, A ⟨m.path, w⟩ → Ver.le w m.ver)
    (hcov : ∀ m, A m → ∃ v, (⟨m.path, v⟩ : Mod) ∈ list)
    (hreq : reqList fuel (dawnReqs e anyroot) rootMod list = .ok min)
    (hsame : ∀ m, m ∈ roots' ↔ m ∈ min)
    (hbl : buildList fuel' (dawnReqs e roots') rootMod = .ok bl') :
    (∀ m, m ∈ bl' ↔ m ∈ list) ∧ (∀ x ∈ min, x ∈ list ∧ okReq x) := by
  have hLA : ∀ m ∈ list, m ≠ rootMod → A m := fun m hm hne => (hL m hm hne).1
  have hmin := reqList_min_ok hA hnd hLA hreq
  refine ⟨?_, fun x hx => ⟨(hmin x hx).1, hA.ok x (hmin x hx).2⟩⟩
  -- the new exploration stays inside `A` …
  have hsub : ∀ m, Reach (dawnReqs e roots') .none rootMod m → m = rootMod ∨ A m := by
    intro m hm
    induction hm with
    | root => exact Or.inl rfl
    | step a b _ hb ih =>
      obtain ⟨_, r, hr, hbr⟩ := (mem_edges_plain _ a b).mp hb
      rcases ih with rfl | ih
      · cases hr; exact Or.inr (hmin b ((hsame b).mp hbr)).2
      · exact Or.inr (hA.required ih hr hbr)
  -- … and meets every entry of the list
  have hsup := reqList_reached hA hnd hLA hreq .none fun x hx => (hsame x).mpr hx
  refine buildListWith_mem_of_selection (A := fun m => m = rootMod ∨ A m) hbl (fun m hm _ => hsub m hm) hsup ?_ ?_
  · intro m hm
    by_cases hne : m = rootMod
    · subst hne; exact ⟨Ver.noConfusion, fun w _ => Ver.le_root w⟩
    · have hm' := hL m hm hne
      refine ⟨okReq_ver_ne_none (hA.ok m hm'.1), fun w hw => hm'.2 w (hw.resolve_left fun h => ?_)⟩
      exact (hA.ok m hm'.1).1 (congrArg Mod.path h)
  · rintro m (rfl | hm)
    · exact ⟨.root, hroot⟩
    · exact hcov m hm

/-- Let `list` be the per-path maximum of a set `A` of well-formed modules closed under requirements (the build
list of some exploration). Then the requirements `ReqList` extracts from `list` resolve to `list` again. -/
theorem reqList_preserves {e : Env} {anyroot list min roots' bl' : List Mod} {fuel fuel' : Nat}
    (henv : ∀ n s, e.summary n = some s → ∀ m ∈ s.reqs, okReq m)
    (A : Mod → Prop) (hA1 : ∀ m, A m → okReq m)
    (hA2 : ∀ n s m, A n → e.summary n = some s → m ∈ s.reqs → A m)
    (hnd : (list.map (·.path)).Nodup) (hroot : rootMod ∈ list)
    (hL : ∀ m ∈ list, m ≠ rootMod → A m ∧ ∀ w, A ⟨m.path, w⟩ → Ver.le w m.ver)
    (hcov : ∀ m, A m → ∃ v, (⟨m.path, v⟩ : Mod) ∈ list)
    (hreq : reqList fuel (dawnReqs e anyroot) rootMod list = .ok min)
    (hsame : ∀ m, m ∈ roots' ↔ m ∈ min)
    (hbl : buildList fuel' (dawnReqs e roots') rootMod = .ok bl') :
    (∀ m, m ∈ bl' ↔ m ∈ list) ∧ (∀ x ∈ min, x ∈ list ∧ okReq x) :=
  reqList_resolves ⟨hA1, hA2⟩ hnd hroot hL hcov hreq hsame hbl

theorem pickFor_cons_eq (r v : Mod) (vs : List Mod) (best : Option Mod) :
    pickFor r (v :: vs) best =
      if v.path = "" ∨ v.path ≠ r.path then pickFor r vs best
      else if v.ver = r.ver then some v
      else match best with
        | .none => pickFor r vs (some v)
        | some b => if cmpVersion b.ver v.ver = .lt then pickFor r vs (some v) else pickFor r vs best := by
  cases best <;> rfl

theorem pickFor_cons (r v : Mod) (vs : List Mod) (best : Option Mod) :
    ((v.path = "" ∨ v.path ≠ r.path) ∧ pickFor r (v :: vs) best = pickFor r vs best) ∨
    (v.path = r.path ∧ v.path ≠ "" ∧
      ((v.ver = r.ver ∧ pickFor r (v :: vs) best = some v) ∨
       (v.ver ≠ r.ver ∧ ∃ b, (b = v ∨ best = some b) ∧ pickFor r (v :: vs) best = pickFor r vs (some b)))) := by
  rw [pickFor_cons_eq]
  by_cases hskip : v.path = "" ∨ v.path ≠ r.path
  · exact Or.inl ⟨hskip, if_pos hskip⟩
  · refine Or.inr ⟨Decidable.of_not_not fun h => hskip (Or.inr h), fun h => hskip (Or.inl h), ?_⟩
    rw [if_neg hskip]
    by_cases hver : v.ver = r.ver
    · exact Or.inl ⟨hver, if_pos hver⟩
    · refine Or.inr ⟨hver, ?_⟩
      rw [if_neg hver]
      cases best with
      | none => exact ⟨v, Or.inl rfl, rfl⟩
      | some b =>
        by_cases hlt : cmpVersion b.ver v.ver = .lt
        · exact ⟨v, Or.inl rfl, if_pos hlt⟩
        · exact ⟨b, Or.inr rfl, if_neg hlt⟩

theorem pickFor_exact (r : Mod) (hr : r.path ≠ "") : ∀ (vs : List Mod) (best : Option Mod), r ∈ vs →
    pickFor r vs best = some r := by
  intro vs
  induction vs with
  | nil => exact fun _ h => nomatch h
  | cons v vs ih =>
    intro best hm
    have ih := fun (hv : v ≠ r) b => ih b ((List.mem_cons.mp hm).resolve_left (Ne.symm hv))
    rcases pickFor_cons r v vs best with ⟨hskip, heq⟩ | ⟨hp, _, ⟨hver, heq⟩ | ⟨hver, b, _, heq⟩⟩ <;> rw [heq]
    · exact ih (fun h => hskip.elim (h ▸ hr) (fun hne => hne (h ▸ rfl))) _
    · rw [mod_eq hp hver]
    · exact ih (fun h => hver (h ▸ rfl)) _

theorem pickFor_spec (r : Mod) : ∀ (vs : List Mod) (best : Option Mod) (v : Mod), pickFor r vs best = some v →
    best = some v ∨ (v ∈ vs ∧ v.path = r.path ∧ v.path ≠ "") := by
  intro vs
  induction vs with
  | nil => exact fun _ _ h => Or.inl h
  | cons x vs ih =>
    intro best v h
    have tail : ∀ b, pickFor r vs b = some v → b = some v ∨ (v ∈ x :: vs ∧ v.path = r.path ∧ v.path ≠ "") :=
      fun b hb => (ih b v hb).imp_right fun h => ⟨List.mem_cons_of_mem _ h.1, h.2⟩
    rcases pickFor_cons r x vs best with ⟨_, heq⟩ | ⟨hp, hne, ⟨_, heq⟩ | ⟨_, b, hb, heq⟩⟩ <;> rw [heq] at h
    · exact tail best h
    · cases h; exact Or.inr ⟨List.mem_cons_self, hp, hne⟩
    · rcases tail _ h with h1 | h1
      · cases h1
        exact hb.elim (fun hb => Or.inr ⟨hb ▸ List.mem_cons_self, hb ▸ hp, hb ▸ hne⟩) Or.inl
      · exact Or.inr h1

theorem pickFor_isSome (r : Mod) : ∀ (vs : List Mod) (best : Option Mod),
    (best.isSome ∨ ∃ v ∈ vs, v.path = r.path ∧ v.path ≠ "") → (pickFor r vs best).isSome := by
  intro vs
  induction vs with
  | nil => exact fun _ h => h.elim id fun ⟨_, hv, _⟩ => nomatch hv
  | cons x vs ih =>
    intro best h
    rcases pickFor_cons r x vs best with ⟨hskip, heq⟩ | ⟨_, _, ⟨_, heq⟩ | ⟨_, b, _, heq⟩⟩ <;> rw [heq]
    · refine ih best (h.imp_right fun ⟨v, hv, h2, h3⟩ => ⟨v, ?_, h2, h3⟩)
      refine (List.mem_cons.mp hv).resolve_left fun hvx => ?_
      subst hvx
      exact hskip.elim h3 (fun h => h h2)
    · rfl
    · exact ih _ (Or.inl rfl)

theorem pickFor_mem {r v : Mod} {vs : List Mod} (h : pickFor r vs .none = some v) :
    v ∈ vs ∧ v.path = r.path ∧ v.path ≠ "" :=
  (pickFor_spec r vs .none v h).resolve_left fun h => nomatch h

theorem insertByName_isKeyInsert : IsKeyInsert (·.1) insertByName := ⟨fun _ => rfl, fun _ _ _ => rfl⟩

theorem sortByName_perm (l : Config) : (sortByName l).Perm l := insertByName_isKeyInsert.sort_perm l

theorem freshName_not_mem {taken : List String} {name n : String} (h : freshName taken name = some n) : n ∉ taken := by
  unfold freshName at h
  obtain ⟨k, hk, rfl⟩ := Option.map_eq_some_iff.mp h
  have := List.find?_some hk
  simpa using this

theorem filterMap_fst_sublist (f : Mod → Option Mod) (c : Config) :
    ((c.filterMap fun nr => (f nr.2).map fun v => (nr.1, v)).map (·.1)).Sublist (c.map (·.1)) := by
  induction c with
  | nil => exact List.Sublist.slnil
  | cons x xs ih =>
    rw [List.filterMap_cons]
    cases f x.2 with
    | none => exact List.Sublist.cons _ ih
    | some v => exact List.Sublist.cons_cons _ ih

theorem nameNew_skip (e : Env) (old : Config) (v : Mod) (vs : List Mod) (acc : Config)
    (h : v.path = "" ∨ ∃ o ∈ old, o.2.path = v.path) : nameNew e old (v :: vs) acc = nameNew e old vs acc := by
  rw [nameNew]
  by_cases hp : v.path = ""
  · rw [if_pos hp]
  · obtain ⟨o, ho, hop⟩ := h.resolve_left hp
    rw [if_neg hp, if_pos (List.any_eq_true.mpr ⟨o, ho, decide_eq_true hop⟩)]

theorem nameNew_new {e : Env} {old : Config} {v : Mod} {vs : List Mod} {acc all : Config}
    (hp : v.path ≠ "") (hold : ¬ ∃ o ∈ old, o.2.path = v.path) (h : nameNew e old (v :: vs) acc = .ok all) :
    ∃ n, n ∉ acc.map (·.1) ∧ nameNew e old vs (acc ++ [(n, v)]) = .ok all := by
  have hany : ¬ old.any (·.2.path = v.path) = true :=
    fun h => hold ((List.any_eq_true.mp h).imp fun o ho => ⟨ho.1, of_decide_eq_true ho.2⟩)
  simp only [nameNew, if_neg hp, if_neg hany] at h
  split at h
  · cases h
  · split at h
    · cases h
    · rename_i n hn
      exact ⟨n, freshName_not_mem hn, h⟩

theorem nameNew_spec (e : Env) (old : Config) : ∀ (vs : List Mod) (acc all : Config),
    nameNew e old vs acc = .ok all →
      ∃ added : Config, all = acc ++ added ∧
        added.map (·.2) = vs.filter (fun v => v.path ≠ "" ∧ ¬ ∃ o ∈ old, o.2.path = v.path) ∧
        ((acc.map (·.1)).Nodup → (all.map (·.1)).Nodup) := by
  intro vs
  induction vs with
  | nil =>
    intro acc all h
    cases h
    exact ⟨[], (List.append_nil _).symm, rfl, id⟩
  | cons v vs ih =>
    intro acc all h
    by_cases hskip : v.path = "" ∨ ∃ o ∈ old, o.2.path = v.path
    · rw [nameNew_skip e old v vs acc hskip] at h
      obtain ⟨added, h1, h2, h3⟩ := ih acc all h
      refine ⟨added, h1, ?_, h3⟩
      rw [h2, List.filter_cons_of_neg fun h => hskip.elim (of_decide_eq_true h).1 (of_decide_eq_true h).2]
    · obtain ⟨n, hn, h'⟩ := nameNew_new (not_or.mp hskip).1 (not_or.mp hskip).2 h
      obtain ⟨added, h1, h2, h3⟩ := ih _ all h'
      refine ⟨(n, v) :: added, by rw [h1, List.append_assoc]; rfl, ?_, fun hnd => h3 ?_⟩
      · rw [List.filter_cons, if_pos (decide_eq_true (not_or.mp hskip)), List.map_cons, h2]
      · rw [List.map_append, List.nodup_append]
        refine ⟨hnd, List.pairwise_singleton _ _, fun a ha b hb hab => hn ?_⟩
        have hbn : b = n := List.mem_singleton.mp hb
        exact hbn ▸ hab ▸ ha

theorem nameNew_none_new (e : Env) (old : Config) : ∀ (vs : List Mod) (acc : Config),
    (∀ v ∈ vs, v.path = "" ∨ ∃ o ∈ old, o.2.path = v.path) → nameNew e old vs acc = .ok acc := by
  intro vs acc
  induction vs with
  | nil => exact fun _ => rfl
  | cons v vs ih =>
    exact fun h => (nameNew_skip e old v vs acc (h v List.mem_cons_self)).trans
      (ih fun w hw => h w (List.mem_cons_of_mem _ hw))

theorem transformReqs_ok {e : Env} {c c' : Config} {tx : List Mod → Except Err (List Mod)}
    (h : transformReqs e c tx = .ok c') :
    ∃ nv all, tx (c.map (·.2)) = .ok nv ∧
      nameNew e c nv (c.filterMap fun nr => (pickFor nr.2 nv .none).map fun v => (nr.1, v)) = .ok all ∧
      c' = sortByName all := by
  unfold transformReqs at h
  split at h
  · cases h
  · rename_i nv htx
    dsimp only at h
    split at h
    · cases h
    · rename_i all hall
      cases h
      exact ⟨nv, all, htx, hall, rfl⟩

theorem transformReqs_spec {e : Env} {c c' : Config} {tx : List Mod → Except Err (List Mod)} {nv : List Mod}
    (h : transformReqs e c tx = .ok c') (htx : tx (c.map (·.2)) = .ok nv) :
    ∃ added, c'.Perm ((c.filterMap fun nr => (pickFor nr.2 nv .none).map fun v => (nr.1, v)) ++ added) ∧
      (∀ x ∈ added, x.2 ∈ nv ∧ x.2.path ≠ "" ∧ ¬ (∃ o ∈ c, o.2.path = x.2.path)) ∧
      (∀ v ∈ nv, v.path ≠ "" → ¬ (∃ o ∈ c, o.2.path = v.path) → ∃ n, (n, v) ∈ added) ∧
      ((c.map (·.1)).Nodup → (c'.map (·.1)).Nodup) := by
  obtain ⟨nv', all, htx', hall, rfl⟩ := transformReqs_ok h
  cases htx.symm.trans htx'
  obtain ⟨added, h1, h2, h3⟩ := nameNew_spec e c nv _ all hall
  refine ⟨added, h1 ▸ sortByName_perm all, fun x hx => ?_, fun v hv hp hn => ?_, fun hnd =>
    ((sortByName_perm all).map (·.1)).nodup_iff.mpr (h3 ((filterMap_fst_sublist (fun r => pickFor r nv .none) c).nodup hnd))⟩
  · have hx' : x.2 ∈ added.map (·.2) := List.mem_map.mpr ⟨x, hx, rfl⟩
    rw [h2, List.mem_filter] at hx'
    exact ⟨hx'.1, of_decide_eq_true hx'.2⟩
  · have hv' : v ∈ added.map (·.2) := by rw [h2, List.mem_filter]; exact ⟨hv, decide_eq_true ⟨hp, hn⟩⟩
    obtain ⟨x, hx, rfl⟩ := List.mem_map.mp hv'
    exact ⟨x.1, hx⟩

theorem transformReqs_values_sub {e : Env} {c c' : Config} {tx : List Mod → Except Err (List Mod)} {nv : List Mod}
    (h : transformReqs e c tx = .ok c') (htx : tx (c.map (·.2)) = .ok nv) : ∀ m ∈ c'.map (·.2), m ∈ nv := by
  obtain ⟨added, hperm, hadd, _, _⟩ := transformReqs_spec h htx
  simp only [List.mem_map, hperm.mem_iff, List.mem_append, List.mem_filterMap, Option.map_eq_some_iff]
  rintro m ⟨x, ⟨nr, _, v, hp, rfl⟩ | hx, rfl⟩
  · exact (pickFor_mem hp).1
  · exact (hadd x hx).1

theorem transformReqs_values_functional {e : Env} {c c' : Config} {tx : List Mod → Except Err (List Mod)} {nv : List Mod}
    (h : transformReqs e c tx = .ok c') (htx : tx (c.map (·.2)) = .ok nv)
    (hf : PathFunctional nv) (hne : ∀ v ∈ nv, v.path ≠ "") (m : Mod) : m ∈ c'.map (·.2) ↔ m ∈ nv := by
  refine ⟨transformReqs_values_sub h htx m, fun hm => ?_⟩
  obtain ⟨added, hperm, _, h5, _⟩ := transformReqs_spec h htx
  simp only [List.mem_map, hperm.mem_iff, List.mem_append, List.mem_filterMap, Option.map_eq_some_iff]
  by_cases hold : ∃ o ∈ c, o.2.path = m.path
  · obtain ⟨o, ho, hop⟩ := hold
    obtain ⟨v, hp⟩ := Option.isSome_iff_exists.mp (pickFor_isSome o.2 nv .none (Or.inr ⟨m, hm, hop.symm, hne m hm⟩))
    have hv := pickFor_mem hp
    exact ⟨(o.1, v), Or.inl ⟨o, ho, v, hp, rfl⟩, hf v hv.1 m hm (hv.2.1.trans hop)⟩
  · obtain ⟨n, hn⟩ := h5 m hm (hne m hm) hold
    exact ⟨(n, m), Or.inr hn, rfl⟩

theorem filterMap_id_of_forall {α : Type} (f : α → Option α) (l : List α) (h : ∀ x ∈ l, f x = some x) :
    l.filterMap f = l := by
  induction l with
  | nil => rfl
  | cons x xs ih =>
    rw [List.filterMap_cons, h x List.mem_cons_self, ih fun y hy => h y (List.mem_cons_of_mem _ hy)]

theorem kept_of_passthrough {c : Config} {nv : List Mod} (hold : ∀ r ∈ c.map (·.2), r ∈ nv ∧ r.path ≠ "") :
    (c.filterMap fun nr => (pickFor nr.2 nv .none).map fun v => (nr.1, v)) = c :=
  filterMap_id_of_forall _ c fun x hx => by
    have hx' := hold x.2 (List.mem_map.mpr ⟨x, hx, rfl⟩)
    rw [pickFor_exact x.2 hx'.2 nv .none hx'.1]
    rfl

theorem buildListWith_dominates {f1 f2 : Nat} {rq1 rq2 : Reqs} {up1 up2 : Option (Mod → Option Mod)} {target : Mod}
    {bl1 bl2 : List Mod} (h1 : buildListWith f1 rq1 up1 target = .ok bl1) (h2 : buildListWith f2 rq2 up2 target = .ok bl2)
    (hsub : ∀ m, Reach rq1 up1 target m → Reach rq2 up2 target m) :
    ∀ m ∈ bl1, ∃ v, (⟨m.path, v⟩ : Mod) ∈ bl2 ∧ Ver.le m.ver v := by
  rintro ⟨p, v⟩ hm
  obtain ⟨hv, hr, _⟩ := (buildListWith_exact h1 p v).mp hm
  exact buildListWith_covers h2 p v (hsub _ hr) hv

theorem buildList_mono {e : Env} {r1 r2 : List Mod} {f1 f2 : Nat} {b1 b2 : List Mod} (hsub : ∀ m ∈ r1, m ∈ r2)
    (h1 : buildList f1 (dawnReqs e r1) rootMod = .ok b1) (h2 : buildList f2 (dawnReqs e r2) rootMod = .ok b2) :
    ∀ m ∈ b1, ∃ v, (⟨m.path, v⟩ : Mod) ∈ b2 ∧ Ver.le m.ver v := by
  refine buildListWith_dominates h1 h2 fun _ => reach_congr fun n m hm => ?_
  rw [mem_edges_plain] at hm ⊢
  obtain ⟨hv, r, hr, hmr⟩ := hm
  by_cases hp : n.path = ""
  · simp only [dawnReqs, if_pos hp, Option.some.injEq] at hr
    exact ⟨hv, r2, by simp only [dawnReqs, if_pos hp], hsub m (hr ▸ hmr)⟩
  · exact ⟨hv, r, dawnReqs_required_congr e r1 r2 hp ▸ hr, hmr⟩

theorem buildList_covers {e : Env} {roots bl : List Mod} {fuel : Nat} (hwf : WellFormed e roots)
    (h : buildList fuel (dawnReqs e roots) rootMod = .ok bl) {m : Mod} (hm : UReach e roots m) :
    ∃ v, (⟨m.path, v⟩ : Mod) ∈ bl ∧ Ver.le m.ver v :=
  buildListWith_covers h m.path m.ver ((reach_dawn_iff hwf _).mpr (Or.inr hm)) (okReq_ver_ne_none (ureach_ok hwf hm))

/-- what an exploration met, the main project and the placeholders at `"none"` aside -/
def met (rq : Reqs) (up : Option (Mod → Option Mod)) (m : Mod) : Prop :=
  Reach rq up rootMod m ∧ m ≠ rootMod ∧ m.ver ≠ .none

theorem met_selected {f0 : Nat} {rq : Reqs} {up : Option (Mod → Option Mod)} {list : List Mod}
    (hlist : buildListWith f0 rq up rootMod = .ok list) :
    (∀ m ∈ list, m ≠ rootMod → met rq up m ∧ ∀ w, met rq up ⟨m.path, w⟩ → Ver.le w m.ver) ∧
    (∀ m, met rq up m → ∃ v, (⟨m.path, v⟩ : Mod) ∈ list) := by
  refine ⟨fun ⟨p, v⟩ hm hne => ?_, fun ⟨p, v⟩ hm => ?_⟩
  · have hex := (buildListWith_exact hlist p v).mp hm
    exact ⟨⟨hex.2.1, hne, hex.1⟩, fun w hw => hex.2.2 w hw.1⟩
  · exact (buildListWith_covers hlist p v hm.1 hm.2.2).imp fun _ h => h.1

theorem met_of_mem {f0 : Nat} {rq : Reqs} {up : Option (Mod → Option Mod)} {list : List Mod}
    (hlist : buildListWith f0 rq up rootMod = .ok list) : ∀ m ∈ list, m ≠ rootMod → met rq up m :=
  fun m hm hne => ((met_selected hlist).1 m hm hne).1

theorem met_closed {e : Env} {roots : List Mod} {rq : Reqs} {up : Option (Mod → Option Mod)}
    (henv : ∀ n s, e.summary n = some s → ∀ m ∈ s.reqs, okReq m) (hok : ∀ m, met rq up m → okReq m)
    (hreq : ∀ n, n ≠ rootMod → rq.required n = (dawnReqs e roots).required n) : Closed e (met rq up) := by
  refine ⟨hok, fun n s m hn hs hm => ?_⟩
  have hokm := henv n s hs m hm
  refine ⟨hn.1.req hn.2.2 ?_ hm, fun h => hokm.1 (h ▸ rfl), okReq_ver_ne_none hokm⟩
  rw [hreq n hn.2.1]
  exact (dawnReqs_required_some (hok n hn)).mpr ⟨s, hs, rfl⟩

theorem met_closed_plain {e : Env} {roots : List Mod} (hwf : WellFormed e roots) :
    Closed e (met (dawnReqs e roots) .none) :=
  met_closed hwf.reqs_ok (fun m hm => ureach_ok hwf (((reach_dawn_iff hwf m).mp hm.1).resolve_left hm.2.1))
    fun _ _ => rfl

theorem written_values {e : Env} {c c' : Config} {tx : List Mod → Except Err (List Mod)} {list nv : List Mod}
    {fuel f0 : Nat} {rq0 : Reqs} {up0 : Option (Mod → Option Mod)} (hA : Closed e (met rq0 up0))
    (hlist : buildListWith f0 rq0 up0 rootMod = .ok list)
    (h : transformReqs e c tx = .ok c') (htx : tx (c.map (·.2)) = .ok nv)
    (hreq : reqList fuel (dawnReqs e (c.map (·.2))) rootMod list = .ok nv) :
    (∀ x ∈ nv, x ∈ list ∧ met rq0 up0 x) ∧ ∀ m, m ∈ c'.map (·.2) ↔ m ∈ nv := by
  have hnd := buildListWith_nodup hlist
  have hmin := reqList_min_ok hA hnd (met_of_mem hlist) hreq
  exact ⟨hmin, transformReqs_values_functional h htx (reqList_functional hnd hreq) fun v hv => (hA.ok v (hmin v hv).2).1⟩

theorem edit_via_reqList {e : Env} {c c' : Config} {tx : List Mod → Except Err (List Mod)} {list nv bl' : List Mod}
    {fuel fuel' f0 : Nat} {rq0 : Reqs} {up0 : Option (Mod → Option Mod)} (hA : Closed e (met rq0 up0))
    (hlist : buildListWith f0 rq0 up0 rootMod = .ok list)
    (h : transformReqs e c tx = .ok c') (htx : tx (c.map (·.2)) = .ok nv)
    (hreq : reqList fuel (dawnReqs e (c.map (·.2))) rootMod list = .ok nv)
    (hbl' : BuildList fuel' e c' = .ok bl') : bl' = list :=
  have hsel := met_selected hlist
  buildListWith_ext hbl' hlist
    (reqList_resolves hA (buildListWith_nodup hlist) (buildListWith_target_mem hlist) hsel.1 hsel.2 hreq
      (written_values hA hlist h htx hreq).2 hbl').1

theorem tidy_ok {e : Env} {c c' : Config} {fuel : Nat} (h : Tidy fuel e c = .ok c') :
    ∃ list nv, buildList fuel (dawnReqs e (c.map (·.2))) rootMod = .ok list ∧
      reqList fuel (dawnReqs e (c.map (·.2))) rootMod list = .ok nv ∧
      req fuel (dawnReqs e (c.map (·.2))) rootMod = .ok nv := by
  obtain ⟨nv, _, htx, _⟩ := transformReqs_ok h
  have htx' : req fuel (dawnReqs e (c.map (·.2))) rootMod = .ok nv := htx
  unfold req at htx
  split at htx
  · cases htx
  · rename_i list hlist
    exact ⟨list, nv, hlist, htx, htx'⟩

theorem tidy_preserves (e : Env) (c c' : Config) (fuel fuel0 fuel' : Nat) (bl bl' : List Mod)
    (hwf : WellFormed e (c.map (·.2))) (ht : Tidy fuel e c = .ok c')
    (hbl : BuildList fuel0 e c = .ok bl) (hbl' : BuildList fuel' e c' = .ok bl') : bl' = bl := by
  obtain ⟨list, nv, hlist, hreq, htx⟩ := tidy_ok ht
  have h1 : bl' = list := edit_via_reqList (met_closed_plain hwf) hlist ht htx hreq hbl'
  exact h1 ▸ buildListWith_congr (fun _ _ => Iff.rfl) hlist hbl

/-- a module an upgrade exploration may meet: a project at a canonical version or at `"none"` -/
def weakOk (m : Mod) : Prop := m.path ≠ "" ∧ (m.ver = .none ∨ ∃ s, m.ver = .sv s)

theorem weakOk_of_ok {m : Mod} (h : okReq m) : weakOk m := ⟨h.1, Or.inr h.2⟩

theorem okReq_of_weakOk {m : Mod} (h : weakOk m) (hv : m.ver ≠ .none) : okReq m := ⟨h.1, h.2.resolve_left hv⟩

/-- the setting shared by `mvs.Upgrade` and `mvs.UpgradeAll` as dawn calls them: the requirement graph of the project
file, possibly with extra entries for the main module, explored with an upgrade function that leaves the main module alone -/
structure UpSetting (keeps : Prop) (e : Env) (roots : List Mod) (rq' : Reqs) (upf : Mod → Option Mod) : Prop where
  env_ok : ∀ n s, e.summary n = some s → ∀ m ∈ s.reqs, okReq m
  other : ∀ n, n ≠ rootMod → rq'.required n = (dawnReqs e roots).required n
  main : ∃ list', rq'.required rootMod = some list' ∧ (keeps → ∀ m ∈ roots, m ∈ list') ∧ ∀ x ∈ list', x = rootMod ∨ weakOk x
  up_main : upf rootMod = some rootMod ∨ upf rootMod = .none
  up_ok : ∀ n m, n ≠ rootMod → n.path ≠ "" → upf n = some m → m ≠ n → weakOk m

theorem reach_up_weakOk {keeps : Prop} {e : Env} {roots : List Mod} {rq' : Reqs} {upf : Mod → Option Mod}
    (G : UpSetting keeps e roots rq' upf) {m : Mod} (h : Reach rq' (some upf) rootMod m) : m = rootMod ∨ weakOk m := by
  induction h with
  | root => exact Or.inl rfl
  | step n m _ hm ih =>
    have hnr : weakOk n → n ≠ rootMod := fun h e => h.1 (e ▸ rfl)
    rcases (mem_edges_up rq' upf n m).mp hm with ⟨hu, hne⟩ | ⟨hv, r, hr, hmr⟩
    · rcases ih with rfl | ih
      · rcases G.up_main with h1 | h1 <;> cases h1.symm.trans hu
        exact absurd rfl hne
      · exact Or.inr (G.up_ok n m (hnr ih) ih.1 hu hne)
    · rcases ih with rfl | ih
      · obtain ⟨list', hl, _, hok⟩ := G.main
        cases hl.symm.trans hr
        exact hok m hmr
      · rw [G.other n (hnr ih)] at hr
        obtain ⟨s, hs, rfl⟩ := (dawnReqs_required_some (okReq_of_weakOk ih hv)).mp hr
        exact Or.inr (weakOk_of_ok (G.env_ok n s hs m hmr))

theorem reach_up_of_reach {keeps : Prop} {e : Env} {roots : List Mod} {rq' : Reqs} {upf : Mod → Option Mod}
    (G : UpSetting keeps e roots rq' upf) (hk : keeps) {m : Mod} (h : Reach (dawnReqs e roots) .none rootMod m) :
    Reach rq' (some upf) rootMod m := by
  induction h with
  | root => exact Reach.root
  | step n m _ hm ih =>
    obtain ⟨hv, r, hr, hmr⟩ := (mem_edges_plain _ n m).mp hm
    by_cases hnr : n = rootMod
    · subst hnr
      obtain ⟨list', hl, hsub, _⟩ := G.main
      cases hr
      exact ih.req hv hl (hsub hk m hmr)
    · exact ih.req hv ((G.other n hnr).trans hr) hmr

theorem UpSetting.closed_of_reach {keeps : Prop} {e : Env} {roots : List Mod} {rq' : Reqs} {upf : Mod → Option Mod}
    (G : UpSetting keeps e roots rq' upf) {up : Option (Mod → Option Mod)}
    (hup : ∀ m, Reach rq' up rootMod m → Reach rq' (some upf) rootMod m) : Closed e (met rq' up) :=
  met_closed G.env_ok
    (fun _ h => okReq_of_weakOk ((reach_up_weakOk G (hup _ h.1)).resolve_left h.2.1) h.2.2) G.other

/-- `Upgrade` / `UpgradeAll`, then `ReqList`, then the file: the file resolves to the upgraded build list, which has
every module the upgraded exploration reached (in particular everything the old build list had, and every upgrade
target) at the same or a higher version -/
theorem upgrade_general {keeps : Prop} {e : Env} {c c' : Config} {tx : List Mod → Except Err (List Mod)} {list nv bl' : List Mod}
    {fuel fuel' f0 : Nat} {rq' : Reqs} {upf : Mod → Option Mod}
    (G : UpSetting keeps e (c.map (·.2)) rq' upf)
    (hlist : buildListWith f0 rq' (some upf) rootMod = .ok list)
    (h : transformReqs e c tx = .ok c') (htx : tx (c.map (·.2)) = .ok nv)
    (hreq : reqList fuel (dawnReqs e (c.map (·.2))) rootMod list = .ok nv)
    (hbl' : BuildList fuel' e c' = .ok bl') :
    bl' = list ∧ ∀ m, Reach rq' (some upf) rootMod m → m.ver ≠ .none → ∃ v', (⟨m.path, v'⟩ : Mod) ∈ bl' ∧ Ver.le m.ver v' := by
  have heq : bl' = list := edit_via_reqList (G.closed_of_reach fun _ h => h) hlist h htx hreq hbl'
  exact ⟨heq, fun ⟨p, v⟩ hr hv => heq ▸ buildListWith_covers hlist p v hr hv⟩

theorem get_cases {fuel : Nat} {e : Env} {prev : Mod → Option Mod} {roots nv bl : List Mod} {vq : VersionQuery} {version : Mod}
    (h : get fuel e prev roots vq = .ok nv) (hbl : buildList fuel (dawnReqs e roots) rootMod = .ok bl)
    (hres : resolveVersionQuery e bl vq = .ok version) :
    (bl.find? (·.path = version.path) = .none ∧ nv = version :: roots) ∨
    (∃ cur, bl.find? (·.path = version.path) = some cur ∧
      ((semverCompare cur.ver version.ver = .eq ∧ nv = roots) ∨
       (semverCompare cur.ver version.ver = .lt ∧ ∃ blu, mvsUpgrade fuel (dawnReqs e roots) rootMod version = .ok blu ∧
          reqList fuel (dawnReqs e roots) rootMod blu = .ok nv) ∨
       (semverCompare cur.ver version.ver = .gt ∧ ∃ bld, mvsDowngrade fuel (dawnReqs e roots) prev rootMod version = .ok bld ∧
          reqList fuel (dawnReqs e roots) rootMod bld = .ok nv))) := by
  unfold get at h
  simp only [hbl, hres] at h
  split at h
  · next hfind => cases h; exact Or.inl ⟨hfind, rfl⟩
  · next cur hfind =>
    refine Or.inr ⟨cur, hfind, ?_⟩
    split at h
    · next hc => cases h; exact Or.inl ⟨hc, rfl⟩
    · next hc =>
      split at h
      · cases h
      · next blu hup => exact Or.inr (Or.inl ⟨hc, blu, hup, h⟩)
    · next hc =>
      split at h
      · cases h
      · next bld hdown => exact Or.inr (Or.inr ⟨hc, bld, hdown, h⟩)

theorem semverCompare_lt_le {a : Ver} {s : SemVer} (h : semverCompare a (.sv s) = .lt) (ha : a ≠ .root) : Ver.le a (.sv s) := by
  cases a with
  | root => exact absurd rfl ha
  | none => exact Ver.none_le _
  | sv t => simp [Ver.le, cmpVersion, h]

theorem override_required_self (target : Mod) (list : List Mod) (rq : Reqs) :
    (override target list rq).required target = some list := if_pos rfl

theorem override_required_ne {target n : Mod} (list : List Mod) (rq : Reqs) (h : n ≠ target) :
    (override target list rq).required n = rq.required n := if_neg h

/-- the override list and upgrade function `mvs.Upgrade` builds for one upgraded module -/
def upList (roots : List Mod) (u : Mod) : List Mod :=
  if roots.any (·.path = u.path) then roots else roots ++ [⟨u.path, .none⟩]

def upFn (u : Mod) : Mod → Option Mod := fun m => if m.path = u.path then some ⟨m.path, u.ver⟩ else some m

theorem upFn_cases {u n m : Mod} (h : upFn u n = some m) : m = u ∨ m = n := by
  unfold upFn at h
  split at h <;> cases h
  · next hp => exact Or.inl (mod_eq hp rfl)
  · exact Or.inr rfl

theorem mvsUpgrade_eq (fuel : Nat) (e : Env) (roots : List Mod) (u : Mod) :
    mvsUpgrade fuel (dawnReqs e roots) rootMod u =
      buildListWith fuel (override rootMod (upList roots u) (dawnReqs e roots)) (some (upFn u)) rootMod := by
  simp only [mvsUpgrade, dawnReqs, rootMod, upList, ↓reduceIte]
  rfl

theorem subset_upList (roots : List Mod) (u : Mod) : ∀ m ∈ roots, m ∈ upList roots u := by
  intro m hm
  unfold upList
  split
  · exact hm
  · exact List.mem_append_left _ hm

theorem mem_upList {roots : List Mod} {u x : Mod} (h : x ∈ upList roots u) : x ∈ roots ∨ x = ⟨u.path, .none⟩ := by
  unfold upList at h
  split at h
  · exact Or.inl h
  · exact (List.mem_append.mp h).imp_right List.mem_singleton.mp

theorem upSetting_get {e : Env} {roots : List Mod} {u : Mod} (hwf : WellFormed e roots) (hu : okReq u) :
    UpSetting True e roots (override rootMod (upList roots u) (dawnReqs e roots)) (upFn u) where
  env_ok := hwf.reqs_ok
  other _ hn := override_required_ne _ _ hn
  main := ⟨upList roots u, override_required_self _ _ _, fun _ => subset_upList roots u, fun x hx =>
    Or.inr ((mem_upList hx).elim (fun h => weakOk_of_ok (hwf.roots_ok x h)) fun h => h ▸ ⟨hu.1, Or.inl rfl⟩)⟩
  up_main := Or.inl (if_neg fun h => hu.1 h.symm)
  up_ok _ _ _ _ hup hne := ((upFn_cases hup).resolve_right hne) ▸ weakOk_of_ok hu

theorem upList_has_path (roots : List Mod) (u : Mod) : ∃ x ∈ upList roots u, x.path = u.path := by
  unfold upList
  split
  · next hany => exact (List.any_eq_true.mp hany).imp fun _ h => ⟨h.1, of_decide_eq_true h.2⟩
  · exact ⟨_, List.mem_append_right _ List.mem_cons_self, rfl⟩

theorem reach_upFn {rq : Reqs} {l : List Mod} {u x : Mod} (hl : rq.required rootMod = some l) (hx : x ∈ l)
    (hxp : x.path = u.path) : Reach rq (some (upFn u)) rootMod u := by
  have hrx := Reach.root.req (up := some (upFn u)) Ver.noConfusion hl hx
  by_cases hxu : u = x
  · exact hxu ▸ hrx
  · exact hrx.up (by rw [upFn, if_pos hxp, hxp]) hxu

theorem reach_up_target {e : Env} {roots : List Mod} {u : Mod} :
    Reach (override rootMod (upList roots u) (dawnReqs e roots)) (some (upFn u)) rootMod u :=
  (upList_has_path roots u).elim fun _ h => reach_upFn (override_required_self _ _ _) h.1 h.2

theorem find?_path_none {bl : List Mod} {p : String} (h : bl.find? (·.path = p) = .none) : ∀ m ∈ bl, m.path ≠ p := by
  intro m hm
  have := List.find?_eq_none.mp h m hm
  simpa using this

theorem find?_path_some {bl : List Mod} {p : String} {cur : Mod} (h : bl.find? (·.path = p) = some cur) :
    cur ∈ bl ∧ cur.path = p := by
  refine ⟨List.mem_of_find?_eq_some h, ?_⟩
  have := List.find?_some h
  simpa using this

theorem transformReqs_passthrough_values {e : Env} {c c' : Config} {tx : List Mod → Except Err (List Mod)} {nv : List Mod}
    (h : transformReqs e c tx = .ok c') (htx : tx (c.map (·.2)) = .ok nv)
    (hold : ∀ r ∈ c.map (·.2), r ∈ nv ∧ r.path ≠ "") :
    (∀ m ∈ c.map (·.2), m ∈ c'.map (·.2)) ∧
    (∀ v ∈ nv, v.path ≠ "" → ¬ (∃ o ∈ c, o.2.path = v.path) → v ∈ c'.map (·.2)) := by
  obtain ⟨added, hperm, _, hnew, _⟩ := transformReqs_spec h htx
  rw [kept_of_passthrough hold] at hperm
  simp only [List.mem_map, hperm.mem_iff, List.mem_append]
  exact ⟨fun m ⟨x, hx, hxm⟩ => ⟨x, Or.inl hx, hxm⟩,
    fun v hv hp hn => (hnew v hv hp hn).elim fun n hn => ⟨(n, v), Or.inr hn, rfl⟩⟩

theorem get_upgrade {e : Env} {c c' : Config} {q : String} {fuel fuel' : Nat} {bl bl' : List Mod} {version : Mod}
    {prev : Mod → Option Mod}
    (hwf : WellFormed e (c.map (·.2)))
    (hget : transformReqs e c (fun root => get fuel e prev root (parseVersionQuery q)) = .ok c')
    (hbl : BuildList fuel e c = .ok bl)
    (hres : resolveVersionQuery e bl (parseVersionQuery q) = .ok version) (hver : okReq version)
    (hup : ∀ cur ∈ bl, cur.path = version.path → semverCompare cur.ver version.ver ≠ .gt)
    (hbl' : BuildList fuel' e c' = .ok bl') :
    (∃ v, (⟨version.path, v⟩ : Mod) ∈ bl' ∧ Ver.le version.ver v) ∧
    (∀ m ∈ bl, ∃ v, (⟨m.path, v⟩ : Mod) ∈ bl' ∧ Ver.le m.ver v) := by
  obtain ⟨nv, _, htx, _⟩ := transformReqs_ok hget
  unfold BuildList at hbl hbl'
  rcases get_cases htx hbl hres with ⟨hfind, rfl⟩ | ⟨cur, hfind, hbr⟩
  · -- add: the file keeps the old requirements, and the new project gets a name, its path not being an old one
    -- (every old path is in the build list)
    obtain ⟨hvals, hnew⟩ := transformReqs_passthrough_values hget htx
      fun r hr => ⟨List.mem_cons_of_mem _ hr, (hwf.roots_ok r hr).1⟩
    refine ⟨?_, buildList_mono hvals hbl hbl'⟩
    have hnot : ¬ ∃ o ∈ c, o.2.path = version.path := by
      rintro ⟨o, ho, hop⟩
      obtain ⟨v, hv, _⟩ := buildList_covers hwf hbl (UReach.root o.2 (List.mem_map.mpr ⟨o, ho, rfl⟩))
      exact find?_path_none hfind _ hv hop
    exact buildListWith_covers hbl' _ _ (Reach.root.req Ver.noConfusion rfl (hnew version List.mem_cons_self hver.1 hnot))
      (okReq_ver_ne_none hver)
  · obtain ⟨hcur, hcurp⟩ := find?_path_some hfind
    rcases hbr with ⟨hc, rfl⟩ | ⟨hc, blu, hupg, hreq⟩ | ⟨hc, _⟩
    · -- the resolved version is the selected one: the file keeps the old requirements
      have hdom := buildList_mono (transformReqs_passthrough_values hget htx
        fun r hr => ⟨hr, (hwf.roots_ok r hr).1⟩).1 hbl hbl'
      obtain ⟨sv, hsv⟩ := hver.2
      have hcv : cur.ver = version.ver := hsv ▸ semverCompare_eq_sv (hsv ▸ hc)
      obtain ⟨v, hv, hle⟩ := hdom cur hcur
      exact ⟨⟨v, hcurp ▸ hv, hcv ▸ hle⟩, hdom⟩
    · -- upgrade
      rw [mvsUpgrade_eq] at hupg
      have G := upSetting_get (u := version) hwf hver
      obtain ⟨rfl, hdom⟩ := upgrade_general G hupg hget htx hreq hbl'
      exact ⟨hdom version reach_up_target (okReq_ver_ne_none hver),
        buildListWith_dominates hbl hupg fun _ => reach_up_of_reach G trivial⟩
    · exact absurd hc (hup cur hcur hcurp)

theorem ureach_cons_cases {e : Env} {u : Mod} {roots : List Mod} {m : Mod} (h : UReach e (u :: roots) m) :
    UReach e roots m ∨ UReach e [u] m := by
  induction h with
  | root m hm =>
    rcases List.mem_cons.mp hm with rfl | h1
    · exact Or.inr (UReach.root _ List.mem_cons_self)
    · exact Or.inl (UReach.root _ h1)
  | step a b s _ hs hb ih =>
    rcases ih with ih | ih
    · exact Or.inl (UReach.step a b s ih hs hb)
    · exact Or.inr (UReach.step a b s ih hs hb)

theorem reach_up_cases {e : Env} {roots : List Mod} {u : Mod} (hwf : WellFormed e roots) (hu : okReq u) {m : Mod}
    (h : Reach (override rootMod (upList roots u) (dawnReqs e roots)) (some (upFn u)) rootMod m) :
    Reach (dawnReqs e roots) .none rootMod m ∨ m = ⟨u.path, .none⟩ ∨ UReach e [u] m := by
  induction h with
  | root => exact Or.inl Reach.root
  | step n m hn hm ih =>
    rcases (mem_edges_up _ _ n m).mp hm with ⟨hup, hne⟩ | ⟨hv, r, hr, hmr⟩
    · -- the upgrade edge
      rcases upFn_cases hup with rfl | rfl
      · exact Or.inr (Or.inr (UReach.root _ List.mem_cons_self))
      · exact absurd rfl hne
    · by_cases hnr : n = rootMod
      · -- the overridden requirements of the main project: the old ones, and possibly the placeholder
        subst hnr
        cases (override_required_self _ _ _).symm.trans hr
        exact (mem_upList hmr).imp (Reach.root.req Ver.noConfusion rfl) Or.inl
      · rw [override_required_ne _ _ hnr] at hr
        rcases ih with ih | ih | ih
        · exact Or.inl (ih.req hv hr hmr)
        · rw [ih] at hv; exact absurd rfl hv
        · have hok := ureach_ok (roots := [u]) ⟨fun x hx => List.mem_singleton.mp hx ▸ hu, hwf.reqs_ok⟩ ih
          obtain ⟨s, hs, rfl⟩ := (dawnReqs_required_some hok).mp hr
          exact Or.inr (Or.inr (UReach.step n m s ih hs hmr))

theorem get_upgrade_exact {e : Env} {c c' : Config} {q : String} {fuel fuel' : Nat} {bl bl' : List Mod} {version : Mod}
    {prev : Mod → Option Mod}
    (hwf : WellFormed e (c.map (·.2)))
    (hget : transformReqs e c (fun root => get fuel e prev root (parseVersionQuery q)) = .ok c')
    (hbl : BuildList fuel e c = .ok bl)
    (hres : resolveVersionQuery e bl (parseVersionQuery q) = .ok version) (hver : okReq version)
    (hup : ∀ cur ∈ bl, cur.path = version.path → semverCompare cur.ver version.ver ≠ .gt)
    (hself : ∀ w, UReach e [version] ⟨version.path, w⟩ → Ver.le w version.ver)
    (hbl' : BuildList fuel' e c' = .ok bl') : version ∈ bl' := by
  obtain ⟨⟨v', hv', hle⟩, _⟩ := get_upgrade hwf hget hbl hres hver hup hbl'
  suffices h : Ver.le v' version.ver by rw [Ver.le_antisymm h hle] at hv'; exact hv'
  obtain ⟨nv, _, htx, _⟩ := transformReqs_ok hget
  unfold BuildList at hbl hbl'
  have hne : ∀ w, (⟨version.path, w⟩ : Mod) ≠ rootMod := fun w h => hver.1 (congrArg Mod.path h)
  -- every module of the old graph with this path is at or below the resolved version
  have hold : ∀ w, UReach e (c.map (·.2)) ⟨version.path, w⟩ → Ver.le w version.ver := by
    intro w hw
    obtain ⟨vb, hvb, hle'⟩ := buildList_covers hwf hbl hw
    have hcmp := hup _ hvb rfl
    obtain ⟨s, hs⟩ := hver.2
    obtain ⟨sb, (hsb : vb = .sv sb)⟩ := (ureach_ok hwf (((buildList_dawn_mem hwf hbl _).mp hvb).resolve_left (hne vb)).1).2
    refine Ver.le_trans hle' ?_
    rw [hsb, hs] at hcmp ⊢
    exact hcmp
  -- add and no-op: the new file has at most the old requirements and the resolved version
  have hpass : (∀ r ∈ nv, r ∈ version :: c.map (·.2)) → Ver.le v' version.ver := by
    intro h2
    have hroots' : ∀ m ∈ c'.map (·.2), m ∈ version :: c.map (·.2) :=
      fun m hm => h2 m (transformReqs_values_sub hget htx m hm)
    have hwf' : WellFormed e (c'.map (·.2)) :=
      ⟨fun m hm => (List.mem_cons.mp (hroots' m hm)).elim (· ▸ hver) (hwf.roots_ok m), hwf.reqs_ok⟩
    have hr := ((buildList_dawn_mem hwf' hbl' _).mp hv').resolve_left (hne v')
    exact (ureach_cons_cases (ureach_mono hroots' hr.1)).elim (hold v') (hself v')
  rcases get_cases htx hbl hres with ⟨_, rfl⟩ | ⟨cur, hfind, ⟨_, rfl⟩ | ⟨_, blu, hupg, hreq⟩ | ⟨hc, _⟩⟩
  · exact hpass fun r hr => hr
  · exact hpass fun r hr => List.mem_cons_of_mem _ hr
  · -- upgrade
    rw [mvsUpgrade_eq] at hupg
    obtain ⟨heq, _⟩ := upgrade_general (upSetting_get (u := version) hwf hver) hupg hget htx hreq hbl'
    rw [heq] at hv'
    rcases reach_up_cases hwf hver (reach_of_mem_buildList hupg hv') with h1 | h1 | h1
    · exact hold v' (((reach_dawn_iff hwf _).mp h1).resolve_left (hne v'))
    · rw [(Mod.mk.inj h1).2]; exact Ver.none_le _
    · exact hself v' h1
  · exact absurd hc (hup cur (find?_path_some hfind).1 (find?_path_some hfind).2)

/-- the upgrade function `mvs.UpgradeAll` hands to `buildList` -/
def upAllFn (e : Env) : Mod → Option Mod := fun m => if m.path = rootMod.path then some rootMod else upgradeLatest e m

theorem foldl_pick_inv (g : Ver → Mod → Prop) [∀ a b, Decidable (g a b)] (P : Ver → Prop) (vs : List Mod)
    (hP : ∀ sel, ∀ v ∈ vs, g sel v → P v.ver) :
    ∀ start, P start → P (vs.foldl (fun sel v => if g sel v then v.ver else sel) start) := by
  induction vs with
  | nil => exact fun _ h => h
  | cons v vs ih =>
    intro start h
    have ih := ih fun sel w hw => hP sel w (List.mem_cons_of_mem _ hw)
    rw [List.foldl_cons]
    split
    · exact ih _ (hP _ v List.mem_cons_self ‹_›)
    · exact ih _ h

theorem listVersions_spec {e : Env} {p : Mod} {versions : List Mod} (h : listVersions e p = some versions) :
    ∀ v ∈ versions, v ∈ e.tags ∧ v.path = p.path := by
  intro v hv
  unfold listVersions at h
  split at h
  · cases h
    have := List.mem_filter.mp hv
    exact ⟨this.1, by simpa using this.2⟩
  · cases h

theorem upgradeLatest_spec {e : Env} {p u : Mod} (h : upgradeLatest e p = some u) (hp : p.path ≠ "") :
    u.path = p.path ∧ (u.ver = p.ver ∨ ∃ s, u.ver = .sv s) := by
  unfold upgradeLatest at h
  rw [if_neg hp] at h
  cases hl : listVersions e p with
  | none => rw [hl] at h; cases h
  | some versions =>
    rw [hl] at h
    cases h
    exact ⟨rfl, foldl_pick_inv _ (fun w => w = p.ver ∨ ∃ s, w = .sv s) versions
      (fun _ _ _ hg => Or.inr (semverCompare_gt_sv hg.2)) p.ver (Or.inl rfl)⟩

theorem upSetting_all {e : Env} {roots : List Mod} (hwf : WellFormed e roots) :
    UpSetting True e roots (dawnReqs e roots) (upAllFn e) where
  env_ok := hwf.reqs_ok
  other _ _ := rfl
  main := ⟨roots, rfl, fun _ _ h => h, fun x hx => Or.inr (weakOk_of_ok (hwf.roots_ok x hx))⟩
  up_main := Or.inl (if_pos rfl)
  up_ok n m _ hnp hup hne := by
    obtain ⟨h1, h2⟩ := upgradeLatest_spec ((if_neg (show ¬ n.path = rootMod.path from hnp)).symm.trans hup) hnp
    exact ⟨h1 ▸ hnp, Or.inr (h2.resolve_left fun h2 => hne (mod_eq h1 h2))⟩

theorem upgradeAll_ok {e : Env} {c c' : Config} {fuel : Nat} (h : UpgradeAll fuel e c = .ok c') :
    ∃ tx blu nv, transformReqs e c tx = .ok c' ∧ tx (c.map (·.2)) = .ok nv ∧
      buildListWith fuel (dawnReqs e (c.map (·.2))) (some (upAllFn e)) rootMod = .ok blu ∧
      reqList fuel (dawnReqs e (c.map (·.2))) rootMod blu = .ok nv := by
  obtain ⟨nv, _, htx, _⟩ := transformReqs_ok h
  have htx' := htx
  dsimp only at htx'
  split at htx'
  · cases htx'
  · rename_i blu hupg
    exact ⟨_, blu, nv, h, htx, hupg, htx'⟩

theorem upgradeAll_dominates {e : Env} {c c' : Config} {fuel fuel' : Nat} {bl bl' : List Mod}
    (hwf : WellFormed e (c.map (·.2)))
    (h : UpgradeAll fuel e c = .ok c') (hbl : BuildList fuel e c = .ok bl) (hbl' : BuildList fuel' e c' = .ok bl') :
    ∀ m ∈ bl, ∃ v, (⟨m.path, v⟩ : Mod) ∈ bl' ∧ Ver.le m.ver v ∧
      ∀ u, upgradeLatest e m = some u → Ver.le u.ver v := by
  obtain ⟨tx, blu, nv, h', htx, hupg, hreq⟩ := upgradeAll_ok h
  have G := upSetting_all hwf
  obtain ⟨rfl, hdom⟩ := upgrade_general G hupg h' htx hreq hbl'
  rintro ⟨p, v0⟩ hm
  obtain ⟨hv0, hr, _⟩ := (buildListWith_exact hbl p v0).mp hm
  have hreach := reach_up_of_reach G trivial hr
  obtain ⟨v, hv, hle⟩ := hdom _ hreach hv0
  refine ⟨v, hv, hle, fun u hu => ?_⟩
  by_cases hum : u = ⟨p, v0⟩
  · exact hum ▸ hle
  · have hp : p ≠ "" := fun hp => hum (by rw [upgradeLatest, if_pos hp] at hu; exact (Option.some.inj hu).symm)
    -- the upgrade is met too, at a version that is not "none" (`m`'s or a canonical one), and listed under the same path
    obtain ⟨(hup : u.path = p), htag⟩ := upgradeLatest_spec hu hp
    have hune : u.ver ≠ .none := htag.elim (fun h => h ▸ hv0) fun ⟨s, hs⟩ => hs ▸ Ver.noConfusion
    obtain ⟨v', hv', hle'⟩ := hdom u (hreach.up ((if_neg (show ¬ p = rootMod.path from hp)).trans hu) hum) hune
    have hv'' : (⟨p, v'⟩ : Mod) ∈ bl' := hup ▸ hv'
    exact (Mod.mk.inj (inj_of_nodup_map (·.path) (buildListWith_nodup hbl') hv'' hv rfl)).2 ▸ hle'

def nameLT (a b : String × Mod) : Prop := a.1 < b.1

theorem insertByName_head (x : String × Mod) (l : Config) (h : ∀ y ∈ l, x.1 < y.1) : insertByName x l = x :: l := by
  cases l with
  | nil => rfl
  | cons y ys => exact if_pos (h y List.mem_cons_self)

theorem sortByName_of_sorted (l : Config) (h : l.Pairwise nameLT) : sortByName l = l := by
  induction l with
  | nil => rfl
  | cons x xs ih =>
    have hx := List.pairwise_cons.mp h
    exact (congrArg (insertByName x) (ih hx.2)).trans (insertByName_head x xs hx.1)

theorem sortByName_strict (l : Config) (hnd : ((sortByName l).map (·.1)).Nodup) : (sortByName l).Pairwise nameLT := by
  rw [List.Nodup, List.pairwise_map] at hnd
  refine ((insertByName_isKeyInsert.sort_sorted l).and hnd).imp fun {a b} ⟨hle, hne⟩ => ?_
  exact (Decidable.of_not_not fun hlt => hne (String.le_antisymm hle (String.not_lt.mp hlt)) : a.1 < b.1)

theorem transformReqs_stable {e : Env} {c : Config} {tx : List Mod → Except Err (List Mod)} {nv : List Mod}
    (hs : c.Pairwise nameLT) (hroots : ∀ r ∈ c.map (·.2), r.path ≠ "") (htx : tx (c.map (·.2)) = .ok nv)
    (hsub : ∀ r ∈ c.map (·.2), r ∈ nv) (hold : ∀ v ∈ nv, v.path = "" ∨ ∃ o ∈ c, o.2.path = v.path) :
    transformReqs e c tx = .ok c := by
  unfold transformReqs
  rw [htx]
  dsimp only
  rw [kept_of_passthrough fun r hr => ⟨hsub r hr, hroots r hr⟩, nameNew_none_new e c nv c hold]
  dsimp only
  rw [sortByName_of_sorted c hs]

theorem transformReqs_sorted {e : Env} {c c' : Config} {tx : List Mod → Except Err (List Mod)}
    (h : transformReqs e c tx = .ok c') (hnd : (c.map (·.1)).Nodup) : c'.Pairwise nameLT := by
  obtain ⟨_, all, htx, _, rfl⟩ := transformReqs_ok h
  obtain ⟨_, _, _, _, hnames⟩ := transformReqs_spec h htx
  exact sortByName_strict all (hnames hnd)

theorem edit_again {e : Env} {c c' c'' : Config} {tx1 tx2 : List Mod → Except Err (List Mod)}
    {list nv nv2 : List Mod} {fuel fuel' f0 : Nat} {rq0 : Reqs} {up0 : Option (Mod → Option Mod)}
    (hnames : (c.map (·.1)).Nodup) (hA : Closed e (met rq0 up0))
    (hlist : buildListWith f0 rq0 up0 rootMod = .ok list)
    (h1 : transformReqs e c tx1 = .ok c') (htx1 : tx1 (c.map (·.2)) = .ok nv)
    (hreq1 : reqList fuel (dawnReqs e (c.map (·.2))) rootMod list = .ok nv)
    (h2 : transformReqs e c' tx2 = .ok c'') (htx2 : tx2 (c'.map (·.2)) = .ok nv2)
    (hreq2 : reqList fuel' (dawnReqs e (c'.map (·.2))) rootMod list = .ok nv2) : c'' = c' := by
  obtain ⟨hmin, hvals⟩ := written_values hA hlist h1 htx1 hreq1
  -- ReqList answers the same for both project files: away from the main project the two graphs agree
  have hnv : nv = nv2 :=
    reqList_congr (fun a => a ≠ rootMod → met rq0 up0 a)
      (fun a r b ha hne hr hb _ => hA.required (ha hne) hr hb)
      (fun a ha hne => dawnReqs_required_congr e _ _ (hA.ok a (ha hne)).1) (met_of_mem hlist) hreq1 hreq2
  subst hnv
  -- so the second edit is handed the requirements the file already has, listed by name
  have hstable := transformReqs_stable (e := e) (transformReqs_sorted h1 hnames)
    (fun r hr => (hA.ok r (hmin r ((hvals r).mp hr)).2).1) htx2 (fun r hr => (hvals r).mp hr)
    (fun v hv => Or.inr ((List.mem_map.mp ((hvals v).mpr hv)).imp fun x hx => ⟨hx.1, congrArg Mod.path hx.2⟩))
  exact Except.ok.inj (h2.symm.trans hstable)

theorem tidy_idem {e : Env} {c c' c'' : Config} {fuel fuel' : Nat}
    (hwf : WellFormed e (c.map (·.2))) (hnames : (c.map (·.1)).Nodup)
    (h1 : Tidy fuel e c = .ok c') (h2 : Tidy fuel' e c' = .ok c'') : c'' = c' := by
  obtain ⟨list, nv, hlist, hreq1, htx1⟩ := tidy_ok h1
  obtain ⟨list2, nv2, hlist2, hreq2, htx2⟩ := tidy_ok h2
  cases tidy_preserves e c c' fuel fuel fuel' list list2 hwf h1 hlist hlist2
  exact edit_again hnames (met_closed_plain hwf) hlist h1 htx1 hreq1 h2 htx2 hreq2

theorem upgradeAll_idem {e : Env} {c c' c'' : Config} {fuel fuel' : Nat}
    (hwf : WellFormed e (c.map (·.2))) (hnames : (c.map (·.1)).Nodup)
    (h1 : UpgradeAll fuel e c = .ok c') (h2 : UpgradeAll fuel' e c' = .ok c'') : c'' = c' := by
  obtain ⟨tx1, blu, nv, h1', htx1, hupg, hreq1⟩ := upgradeAll_ok h1
  obtain ⟨tx2, blu2, nv2, h2', htx2, hupg2, hreq2⟩ := upgradeAll_ok h2
  have G := upSetting_all hwf
  have hA := G.closed_of_reach (up := some (upAllFn e)) fun _ h => h
  obtain ⟨hmin, hvals⟩ := written_values hA hupg h1' htx1 hreq1
  -- the second exploration stays inside the first and meets all of the first's build list: same list
  have heq : blu2 = blu := by
    refine buildListWith_sandwich hupg hupg2 (fun m hm => ?_) (fun m hm => ?_)
    · induction hm with
      | root => exact Reach.root
      | step n m _ hnm ih =>
        rcases (mem_edges_up _ _ n m).mp hnm with ⟨hu, hne⟩ | ⟨hv, r, hr, hmr⟩
        · exact ih.up hu hne
        · rcases reach_up_weakOk G ih with rfl | hn
          · cases hr
            exact (hmin m ((hvals m).mp hmr)).2.1
          · exact ih.req hv ((dawnReqs_required_congr e _ _ hn.1).trans hr) hmr
    · exact reqList_reached hA (buildListWith_nodup hupg) (met_of_mem hupg) hreq1 _ (fun x hx => (hvals x).mpr hx) m hm
  subst heq
  exact edit_again hnames hA hupg h1' htx1 hreq1 h2' htx2 hreq2

theorem get_landed_noop {e : Env} {c : Config} {q : String} {fuel : Nat} {bl : List Mod} {version : Mod}
    (hwf : WellFormed e (c.map (·.2))) (hsorted : c.Pairwise nameLT)
    (hbl : BuildList fuel e c = .ok bl)
    (hres : resolveVersionQuery e bl (parseVersionQuery q) = .ok version) (hver : okReq version)
    (hland : version ∈ bl) : Get fuel e c q = .ok c := by
  refine transformReqs_stable hsorted (fun r hr => (hwf.roots_ok r hr).1) (nv := c.map (·.2)) ?_ (fun r hr => hr)
    (fun v hv => Or.inr ((List.mem_map.mp hv).imp fun x hx => ⟨hx.1, congrArg Mod.path hx.2⟩))
  -- `get` takes the "already selected" branch and hands the root requirements back (`get_cases` reads the branches off a
  -- run that succeeded; here success is what is to be shown, so the definition is followed)
  unfold BuildList at hbl
  unfold get
  simp only [hbl, hres]
  cases hfind : bl.find? (·.path = version.path) with
  | none => exact absurd rfl (find?_path_none hfind version hland)
  | some cur =>
    obtain ⟨hcur, hcurp⟩ := find?_path_some hfind
    cases inj_of_nodup_map (·.path) (buildListWith_nodup hbl) hcur hland hcurp
    obtain ⟨s, hs⟩ := hver.2
    dsimp only
    rw [hs, show semverCompare (.sv s) (.sv s) = .eq from lawful_semver.refl s]

theorem transformReqs_names {e : Env} {c c' : Config} {tx : List Mod → Except Err (List Mod)} {nv : List Mod}
    (h : transformReqs e c tx = .ok c') (htx : tx (c.map (·.2)) = .ok nv) (hnd : (c.map (·.1)).Nodup) :
    (c'.map (·.1)).Nodup ∧
    (∀ n r, (n, r) ∈ c → (∃ v ∈ nv, v.path = r.path ∧ v.path ≠ "") → ∃ v, (n, v) ∈ c' ∧ v.path = r.path) ∧
    (∀ n v, (n, v) ∈ c' → (∃ r, (n, r) ∈ c ∧ r.path = v.path) ∨ (v ∈ nv ∧ ¬ ∃ o ∈ c, o.2.path = v.path)) := by
  obtain ⟨added, hperm, hadd, _, hnames⟩ := transformReqs_spec h htx
  simp only [hperm.mem_iff, List.mem_append, List.mem_filterMap, Option.map_eq_some_iff]
  refine ⟨hnames hnd, fun n r hnr hex => ?_, fun n v hnv => hnv.imp ?_ fun h1 => ?_⟩
  · obtain ⟨v, hp⟩ := Option.isSome_iff_exists.mp (pickFor_isSome r nv .none (Or.inr hex))
    exact ⟨v, Or.inl ⟨(n, r), hnr, v, hp, rfl⟩, (pickFor_mem hp).2.1⟩
  · rintro ⟨nr, hnr, w, hp, hw⟩
    cases hw
    exact ⟨nr.2, hnr, (pickFor_mem hp).2.1.symm⟩
  · exact ⟨(hadd _ h1).1, (hadd _ h1).2.2⟩

end Dawn.Mvs
