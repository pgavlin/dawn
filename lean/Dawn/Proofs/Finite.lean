/-!
Finite combinatorics behind the two last-publisher arguments (runner and loader): a sequence inside a finite list
repeats; a sequence that follows a successor function inside a finite list runs into a cycle, on which some point
carries the largest weight. Core Lean only.
-/
namespace Dawn

theorem pigeonhole {α : Type} (g : Nat → α) (ys : List α) (h : ∀ t, t ≤ ys.length → g t ∈ ys) :
    ∃ i j, i < j ∧ j ≤ ys.length ∧ g i = g j := by
  apply Classical.byContradiction
  intro hex
  have hnd : ((List.range (ys.length + 1)).map g).Nodup :=
    List.pairwise_map.mpr (List.pairwise_lt_range.imp_of_mem fun _ hb hij e =>
      hex ⟨_, _, hij, Nat.le_of_lt_succ (List.mem_range.1 hb), e⟩)
  have := hnd.length_le_of_subset fun x hx => by
    obtain ⟨t, ht, rfl⟩ := List.mem_map.mp hx
    exact h t (Nat.le_of_lt_succ (List.mem_range.1 ht))
  rw [List.length_map, List.length_range] at this
  omega

theorem exists_max (g : Nat → Nat) (m : Nat) : ∃ k, k ≤ m ∧ ∀ t, t ≤ m → g t ≤ g k := by
  induction m with
  | zero => exact ⟨0, Nat.le_refl 0, fun t ht => Nat.le_zero.1 ht ▸ Nat.le_refl _⟩
  | succ m ih =>
    obtain ⟨k, hk, hmax⟩ := ih
    have last : ∀ t, t ≤ m + 1 → t ≤ m ∨ t = m + 1 := fun t ht => by omega
    by_cases hle : g k ≤ g (m + 1)
    · exact ⟨m + 1, Nat.le_refl _, fun t ht => (last t ht).elim (fun h => Nat.le_trans (hmax t h) hle) (· ▸ Nat.le_refl _)⟩
    · exact ⟨k, by omega, fun t ht => (last t ht).elim (hmax t) (· ▸ by omega)⟩

theorem periodic_reduce {α : Type} (c : Nat → α) (L : Nat) (hL : 0 < L) (hper : ∀ q, c (q + L) = c q) :
    ∀ q, ∃ k, k < L ∧ c q = c k := by
  intro q
  induction q using Nat.strongRecOn with
  | _ q ih =>
    by_cases hq : q < L
    · exact ⟨q, hq, rfl⟩
    · obtain ⟨k, hk, e⟩ := ih (q - L) (by omega)
      exact ⟨k, hk, by rw [← e, ← hper (q - L), Nat.sub_add_cancel (by omega)]⟩

theorem periodic_max {α : Type} (c : Nat → α) (w : α → Nat) (L : Nat) (hL : 0 < L) (hper : ∀ q, c (q + L) = c q) :
    ∃ m, ∀ q, w (c q) ≤ w (c m) := by
  obtain ⟨m, _, hmax⟩ := exists_max (fun k => w (c k)) L
  refine ⟨m, fun q => ?_⟩
  obtain ⟨k, hk, e⟩ := periodic_reduce c L hL hper q
  rw [e]
  exact hmax k (Nat.le_of_lt hk)

theorem orbit_max {α : Type} (f : α → α) (c : Nat → α) (hc : ∀ q, c (q + 1) = f (c q)) (ys : List α)
    (h : ∀ q, c q ∈ ys) (w : α → Nat) :
    ∃ i L, 0 < L ∧ (∀ q, c (i + (q + L)) = c (i + q)) ∧ ∀ q, w (c (i + q)) ≤ w (c i) := by
  obtain ⟨i, j, hij, _, e⟩ := pigeonhole c ys fun t _ => h t
  -- two equal terms stay equal: the sequence has period `j - i` from `i` on
  have hper : ∀ q, c (i + (q + (j - i))) = c (i + q) := fun q => by
    rw [show i + (q + (j - i)) = j + q by omega]
    induction q with
    | zero => exact e.symm
    | succ q ih => rw [← Nat.add_assoc, hc, ih, ← hc, Nat.add_assoc]
  obtain ⟨m, hmax⟩ := periodic_max (fun q => c (i + q)) w (j - i) (by omega) hper
  refine ⟨i + m, j - i, by omega, fun q => ?_, fun q => ?_⟩
  · rw [Nat.add_assoc, ← Nat.add_assoc m, hper, Nat.add_assoc]
  · rw [Nat.add_assoc]; exact hmax (m + q)

end Dawn
