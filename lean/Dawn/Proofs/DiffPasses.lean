import Dawn.Proofs.DiffRecord
/-!
C16: the outer loop of `compose` (search, extract the route, record it, restart on the rest when the route list
outgrew `routeSize`) and `diffSlice` as a whole.
-/
namespace Dawn.Diff

section
variable {α δ : Type} {eq : α → α → Except Err Bool} {eqb : α → α → Bool}

/-- A pass that does not finish ends away from the origin (`search_spec`), so the next one runs on rests that are
shorter by at least one element in all: fuel `len(a) + len(b) + 1` is enough for the passes. -/
theorem passes_spec (routeSize size : Nat) (hrs : 1 ≤ routeSize) (reverse : Bool) (fuel : Nat) :
    ∀ (a b : List α) (edits : List (RawEdit α)) (o0 n0 : List α),
      a.length ≤ b.length → a.length + b.length + 3 ≤ size → a.length + b.length + 1 ≤ fuel →
      EqOn eq eqb a b → RecInvRev eqb a b reverse o0 n0 edits 0 0 →
      ∃ edits', passes eq routeSize size reverse fuel a b edits = .ok edits' ∧
        RawS eqb edits' (o0 ++ (if reverse then b else a)) (n0 ++ (if reverse then a else b)) := by
  induction fuel with
  | zero => intro a b _ _ _ _ _ hf; omega
  | succ fuel ih =>
    intro a b edits o0 n0 hmn hsize hf heq hJ
    obtain ⟨st1, r, q, e1, hrd, hq, hpts, hqx, ⟨hx0, hx1, hy0, hy1⟩, hprog⟩ :=
      search_spec size hmn hsize heq routeSize hrs
    obtain ⟨L, hL, hLok⟩ := route_spec hpts r q (st1.pts.size + 1) [] _ hq
      (by have := lt_of_getElem?_some hq; omega) (.nil _)
    obtain ⟨es', hw, hP⟩ := walkRoute_spec hLok edits hJ
    have hsem := hP.sem
    by_cases hdone : q.x + 1 > (a.length : Int) ∧ q.y + 1 > (b.length : Int)
    · -- everything was recorded
      refine ⟨es', ?_, ?_⟩
      · simp only [passes, bind, Except.bind, e1, hrd, hL, hw, hdone, and_self, ↓reduceIte, pure, Except.pure]
      · have e : q.x.toNat = a.length ∧ q.y.toNat = b.length := by omega
        simpa [e.1, e.2] using hsem
    · -- the route list outgrew routeSize: continue on the rest, which is shorter
      have hprog := hprog (by omega)
      have la := length_drop_toNat a q.x hx0 hx1
      have lb := length_drop_toNat b q.y hy0 hy1
      obtain ⟨edits2, e2, hsem2⟩ := ih (a.drop q.x.toNat) (b.drop q.y.toNat) es' _ _
        (by omega) (by omega) (by omega) (heq.drop _ _) (hP.restart _ _)
      refine ⟨edits2, ?_, ?_⟩
      · simp only [passes, bind, Except.bind, e1, hrd, hL, hw, hdone, ↓reduceIte,
          slice_drop a q.x hx0 hx1, slice_drop b q.y hy0 hy1]
        exact e2
      · cases reverse <;> simpa [List.append_assoc] using hsem2

variable {elemDiff : α → α → Except Err (Option δ)} {lit : Option (List α → List α → δ)}

theorem compose_spec (routeSize : Nat) (hrs : 1 ≤ routeSize) (reverse : Bool) (a b : List α)
    (hmn : a.length ≤ b.length) (heq : EqOn eq eqb a b)
    (hD : ∀ x ∈ (if reverse then b else a), ∀ y ∈ (if reverse then a else b), lit = none → ∃ d, elemDiff x y = .ok d) :
    ∃ raw out, passes eq routeSize (a.length + b.length + 3) reverse (a.length + b.length + 1) a b [] = .ok raw ∧
      merge elemDiff lit [] raw.reverse = .ok out ∧
      Recon eqb elemDiff lit out.reverse (if reverse then b else a) (if reverse then a else b) := by
  obtain ⟨raw, e1, hraw⟩ := passes_spec routeSize (a.length + b.length + 3) hrs reverse
    (a.length + b.length + 1) a b [] [] [] hmn (Nat.le_refl _) (Nat.le_refl _) heq (RecInvRev.init reverse)
  obtain ⟨out, e2, hout⟩ := merge_spec hraw hD
  exact ⟨raw, out, e1, e2, hout.toRecon⟩

variable (eq eqb elemDiff lit) in
theorem diffSliceEdits_spec (routeSize : Nat) (hrs : 1 ≤ routeSize) (a b : List α)
    (heq : EqOn eq eqb a b) (heq' : EqOn eq eqb b a)
    (hD : ∀ x ∈ a, ∀ y ∈ b, lit = none → ∃ d, elemDiff x y = .ok d) :
    ∃ edits, diffSliceEdits eq elemDiff lit routeSize a b = .ok edits ∧ Recon eqb elemDiff lit edits a b := by
  by_cases hrev : a.length ≥ b.length
  · obtain ⟨raw, out, e1, e2, hr⟩ := compose_spec routeSize hrs true b a hrev heq' hD
    exact ⟨out.reverse, by simp [diffSliceEdits, hrev, e1, e2, bind, Except.bind, pure, Except.pure], hr⟩
  · obtain ⟨raw, out, e1, e2, hr⟩ := compose_spec routeSize hrs false a b (by omega) heq hD
    exact ⟨out.reverse, by simp [diffSliceEdits, hrev, e1, e2, bind, Except.bind, pure, Except.pure], hr⟩

end
end Dawn.Diff
