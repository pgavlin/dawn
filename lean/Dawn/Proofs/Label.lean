import Dawn.Model.Label
/-! Lemmas for C12 (labels); the property theorems are in `Dawn/Props/Label.lean`.

`Clean`: the Go text with its `lazybuf` is the structural `clean` (`cleanGo_eq`: the loop against `scan`, one equation
`cleanLoop_eq`), and `clean` is the component-level `cleanSpec` (`clean_eq_spec`, through `scan_spec`); what `cleanSpec`
answers is `pkgText rooted cs`, a fixed point of it. `Parse`, `New`, `RelativeTo`, `Join`: each Go function is
`ofExcept` of a specification defined here (`parse`, `new`, `relativeTo`; `parseGo_eq`, `newGo_eq`, `relativeToGo_eq`,
`joinGo_eq`), so none panics. `Label.WF` is what the labels these functions answer have in common (`parse_wf`,
`new_wf`, `relativeTo_wf`, all through `Label.WF.of_clean`), and `parse_print` is the round trip for such labels. -/
namespace Dawn.Label

@[simp] theorem Out.ok_bind {α β : Type} (a : α) (f : α → Out β) : (Out.ok a).bind f = f a := rfl
@[simp] theorem Out.err_bind {α β : Type} (e : Err) (f : α → Out β) : (Out.err e : Out α).bind f = .err e := rfl
@[simp] theorem Out.panic_bind {α β : Type} (f : α → Out β) : (Out.panic : Out α).bind f = .panic := rfl
@[simp] theorem Out.fuel_bind {α β : Type} (f : α → Out β) : (Out.fuel : Out α).bind f = .fuel := rfl

/-- a value or an error, as an outcome -/
def ofExcept {α : Type} : Except Err α → Out α
  | .ok a => .ok a
  | .error e => .err e

@[simp] theorem ofExcept_ok {α : Type} (a : α) : ofExcept (.ok a : Except Err α) = .ok a := rfl
@[simp] theorem ofExcept_error {α : Type} (e : Err) : ofExcept (.error e : Except Err α) = .err e := rfl

theorem returns_of_eq {α : Type} {x : Out α} {y : Except Err α} (e : x = ofExcept y) : x.returns = true := by
  subst e
  cases y <;> rfl

theorem ofExcept_eq_ok {α : Type} {x : Except Err α} {a : α} : ofExcept x = .ok a ↔ x = .ok a := by
  cases x with
  | ok b => exact ⟨fun h => by cases h; rfl, fun h => by cases h; rfl⟩
  | error e => exact ⟨nofun, nofun⟩

theorem ite_error_eq_ok {α : Type} {c : Prop} [Decidable c] {e : Err} {x : Except Err α} {a : α} :
    (if c then .error e else x) = .ok a ↔ ¬ c ∧ x = .ok a := by
  split <;> simp [*]

theorem bind_eq_ok {α β : Type} {x : Except Err α} {f : α → Except Err β} {b : β} :
    x.bind f = .ok b ↔ ∃ a, x = .ok a ∧ f a = .ok b := by
  cases x <;> simp [Except.bind]

theorem take_set_succ (l : Bytes) (w : Nat) (c : UInt8) (hw : w < l.length) : (l.set w c).take (w + 1) = l.take w ++ [c] := by
  rw [List.take_add_one, List.take_set_of_le (Nat.le_refl _), List.getElem?_set_self hw]; rfl

theorem drop_length_takeWhile (p : UInt8 → Bool) (l : Bytes) : l.drop (l.takeWhile p).length = l.dropWhile p := by
  have := List.drop_left' (l₁ := l.takeWhile p) (l₂ := l.dropWhile p) rfl
  rwa [List.takeWhile_append_dropWhile] at this

theorem Except.map_map' {α β γ : Type} (f : α → β) (g : β → γ) (x : Except Err α) : (x.map f).map g = x.map (g ∘ f) := by
  cases x <;> rfl

theorem Except.map_id' {α : Type} (f : α → α) (h : ∀ a, f a = a) (x : Except Err α) : x.map f = x := by
  cases x with
  | error e => rfl
  | ok a => exact congrArg Except.ok (h a)

theorem idx_of_drop {s : Bytes} {i : Nat} {c : UInt8} {rest : Bytes} (h : s.drop i = c :: rest) : idx s i = .ok c := by
  rw [idx, ← List.head?_drop, h]; rfl

theorem slice_ok {s : Bytes} {lo hi : Nat} (h1 : lo ≤ hi) (h2 : hi ≤ s.length) :
    slice s lo hi = .ok ((s.take hi).drop lo) := by
  simp [slice, h1, h2]

theorem slice_zero {s : Bytes} {hi : Nat} (h : hi ≤ s.length) : slice s 0 hi = .ok (s.take hi) :=
  slice_ok (Nat.zero_le _) h

theorem slice_to_end {s : Bytes} {lo : Nat} (h : lo ≤ s.length) : slice s lo s.length = .ok (s.drop lo) := by
  rw [slice_ok h (Nat.le_refl _), List.take_length]

theorem of_drop_eq_cons {s : Bytes} {i : Nat} {c : UInt8} {rest : Bytes} (h : s.drop i = c :: rest) :
    s.drop (i + 1) = rest ∧ s.length = i + (rest.length + 1) := by
  have hlen := congrArg List.length h
  rw [List.length_drop, List.length_cons] at hlen
  refine ⟨?_, by omega⟩
  rw [← List.drop_drop, h]; rfl

def LazyBuf.val (b : LazyBuf) : Bytes := ((b.buf.getD b.s).take b.w)

/-- `b` is a buffer over the input `pkg` holding `v`: the write position is inside the input and an allocated
buffer has the input's length -/
structure LazyBuf.Holds (b : LazyBuf) (pkg v : Bytes) : Prop where
  s : b.s = pkg
  w : b.w ≤ pkg.length
  buf : ∀ buf, b.buf = some buf → buf.length = pkg.length
  val : b.val = v

theorem LazyBuf.Holds.length {b : LazyBuf} {pkg v : Bytes} (h : b.Holds pkg v) : v.length = b.w := by
  obtain ⟨hs, hw, hb, rfl⟩ := h
  unfold LazyBuf.val
  cases hbuf : b.buf with
  | none => simp [hs]; omega
  | some buf => simp [hb buf hbuf]; omega

theorem LazyBuf.string_ok {b : LazyBuf} {pkg v : Bytes} (h : b.Holds pkg v) : b.string = .ok v := by
  obtain ⟨hs, hw, hb, rfl⟩ := h
  unfold LazyBuf.string LazyBuf.val
  cases hbuf : b.buf with
  | none => exact slice_zero (hs ▸ hw)
  | some buf => exact slice_zero (hb buf hbuf ▸ hw)

theorem LazyBuf.append_ok {b : LazyBuf} {pkg v : Bytes} (c : UInt8) (h : b.Holds pkg v) (hw : v.length < pkg.length) :
    ∃ b', b.append c = .ok b' ∧ b'.Holds pkg (v ++ [c]) := by
  have hlen := h.length
  obtain ⟨s, buf, w⟩ := b
  obtain ⟨rfl, _, hb, rfl⟩ := h
  rw [hlen] at hw
  dsimp only at hw hb
  cases buf with
  | none =>
    simp only [LazyBuf.append, hw, ↓reduceIte, idx, List.getElem?_eq_getElem hw, Out.ok_bind]
    by_cases hc : s[w] = c
    · simp only [hc, decide_true, ↓reduceIte]
      refine ⟨_, rfl, rfl, hw, fun _ h => (nomatch h), ?_⟩
      simp only [LazyBuf.val, Option.getD_none]
      rw [List.take_add_one, List.getElem?_eq_getElem hw, hc]; rfl
    · have hpre : (s.take w ++ List.replicate (s.length - (s.take w).length) 0).length = s.length := by
        simp only [List.length_append, List.length_take, List.length_replicate]; omega
      simp only [hc, decide_false, Bool.false_eq_true, ↓reduceIte, slice_zero (Nat.le_of_lt hw), Out.ok_bind, hpre, hw]
      refine ⟨_, rfl, rfl, hw, fun _ h => by cases h; rw [List.length_set, hpre], ?_⟩
      simp only [LazyBuf.val, Option.getD_some, Option.getD_none]
      rw [take_set_succ _ _ _ (hpre.symm ▸ hw), List.take_left' (by rw [List.length_take]; omega)]
  | some buf =>
    have hl := hb buf rfl
    simp only [LazyBuf.append, hl, hw, ↓reduceIte]
    refine ⟨_, rfl, rfl, hw, fun _ h => by cases h; rw [List.length_set, hl], ?_⟩
    simp only [LazyBuf.val, Option.getD_some]
    exact take_set_succ buf w c (hl ▸ hw)

/-- bytes the inner copy loop of `Clean` consumes -/
def elemByte (c : UInt8) : Bool := c ≠ slash ∧ c ≠ colon

theorem copyElem_ok (pkg : Bytes) :
    ∀ (fuel r : Nat) (out : LazyBuf) (v : Bytes), out.Holds pkg v →
      fuel > ((pkg.drop r).takeWhile elemByte).length →
      v.length + ((pkg.drop r).takeWhile elemByte).length ≤ pkg.length →
      ∃ out', copyElem pkg pkg.length fuel r out = .ok (r + ((pkg.drop r).takeWhile elemByte).length, out') ∧
        out'.Holds pkg (v ++ (pkg.drop r).takeWhile elemByte) := by
  intro fuel
  induction fuel with
  | zero => intro r out v _ h; omega
  | succ fuel ih =>
    intro r out v hout hfuel hroom
    unfold copyElem
    cases hd : pkg.drop r with
    | nil =>
      have : ¬ r < pkg.length := Nat.not_lt.mpr (List.drop_eq_nil_iff.mp hd)
      simp only [this, ↓reduceIte, Out.ok_bind, Bool.false_eq_true, List.takeWhile_nil, List.length_nil, Nat.add_zero,
        List.append_nil]
      exact ⟨out, rfl, hout⟩
    | cons c rest =>
      obtain ⟨hd', hlen⟩ := of_drop_eq_cons hd
      rw [hd] at hfuel hroom
      simp only [show r < pkg.length by omega, ↓reduceIte, idx_of_drop hd, Out.ok_bind]
      rw [show decide (c ≠ slash ∧ c ≠ colon) = elemByte c from rfl]
      cases hc : elemByte c with
      | true =>
        simp only [List.takeWhile_cons, hc, ↓reduceIte, List.length_cons] at hfuel hroom ⊢
        obtain ⟨o1, ho1, h1⟩ := LazyBuf.append_ok c hout (by omega)
        obtain ⟨o2, ho2, h2⟩ := ih (r + 1) o1 _ h1 (by rw [hd']; omega) (by rw [hd', List.length_append]; simp only [List.length_cons, List.length_nil]; omega)
        rw [hd'] at ho2 h2
        rw [ho1, Out.ok_bind, ho2]
        exact ⟨o2, by rw [Nat.add_assoc, Nat.add_comm 1], by rwa [List.append_assoc] at h2⟩
      | false =>
        simp only [List.takeWhile_cons, hc, Bool.false_eq_true, ↓reduceIte, List.length_nil, Nat.add_zero, List.append_nil]
        exact ⟨out, rfl, hout⟩

theorem writeElem_ok (pkg : Bytes) (r : Nat) (out : LazyBuf) (v : Bytes) (st : Bool) (hout : out.Holds pkg v)
    (hroom : v.length + (if st then [slash] else []).length ≤ r) (hr : r ≤ pkg.length) :
    ∃ out', out'.Holds pkg (v ++ (if st then [slash] else []) ++ (pkg.drop r).takeWhile elemByte) ∧
      ∀ {β : Type} (K : Nat × LazyBuf → Out β),
        ((if st then out.append slash else .ok out).bind fun o => (copyElem pkg pkg.length (pkg.length + 1) r o).bind K) =
          K (r + ((pkg.drop r).takeWhile elemByte).length, out') := by
  have hlen : r + ((pkg.drop r).takeWhile elemByte).length ≤ pkg.length := by
    have := (List.takeWhile_sublist elemByte (l := pkg.drop r)).length_le
    rw [List.length_drop] at this
    omega
  obtain ⟨o1, ho1, h1⟩ : ∃ o1, (if st then out.append slash else .ok out) = .ok o1 ∧
      o1.Holds pkg (v ++ if st then [slash] else []) := by
    cases st with
    | false => exact ⟨out, rfl, by rwa [if_neg Bool.false_ne_true, List.append_nil]⟩
    | true => exact LazyBuf.append_ok slash hout (Nat.lt_of_lt_of_le hroom hr)
  obtain ⟨o2, ho2, h2⟩ := copyElem_ok pkg (pkg.length + 1) r o1 _ h1 (by omega) (by rw [List.length_append]; omega)
  exact ⟨o2, h2, fun K => by rw [ho1, Out.ok_bind, ho2, Out.ok_bind]⟩

theorem scan_run (rest : Bytes) :
    scan true true rest = (scan true false (rest.dropWhile elemByte)).map (rest.takeWhile elemByte ++ ·) := by
  induction rest with
  | nil => rfl
  | cons c rest ih =>
    by_cases hc : elemByte c = true
    · have hc' : c ≠ slash ∧ c ≠ colon := by simpa [elemByte] using hc
      rw [List.takeWhile_cons_of_pos hc, List.dropWhile_cons_of_pos hc]
      simp only [scan, hc'.1, hc'.2, ↓reduceIte, ih, Except.map_map']
      rfl
    · rw [List.takeWhile_cons_of_neg hc, List.dropWhile_cons_of_neg hc, Except.map_id' _ List.nil_append]
      have : c = slash ∨ c = colon := by
        simp only [elemByte, decide_eq_true_iff, not_and, Decidable.not_not] at hc
        exact (Decidable.em (c = slash)).imp_right hc
      rcases this with rfl | rfl <;> simp [scan]

theorem head?_dropWhile_elemByte (l : Bytes) : ∀ c ∈ (l.dropWhile elemByte).head?, elemByte c = false := by
  intro c hc
  have := List.head?_dropWhile_not elemByte l
  rw [Option.mem_def.mp hc] at this
  exact this

theorem scan_elem_start (st : Bool) (c : UInt8) (rest : Bytes) (hc : elemByte c = true)
    (hd : ¬ (c = dot ∧ dotElem rest = true)) :
    scan st false (c :: rest) = (scan true false (rest.dropWhile elemByte)).map fun t =>
      (if st then [slash] else []) ++ (c :: rest.takeWhile elemByte) ++ t := by
  have hc' : c ≠ slash ∧ c ≠ colon := by simpa [elemByte] using hc
  simp only [scan, hc'.1, hc'.2, ↓reduceIte, Bool.false_eq_true, hd, scan_run rest]
  cases scan true false (rest.dropWhile elemByte) <;> cases st <;> rfl

/-- the write position behind the root marker: `Clean` writes no separator at it -/
def base (rooted : Bool) : Nat := if rooted then 2 else 0

theorem cond_base (rooted : Bool) (w : Nat) :
    ((rooted && w != 2) || (!rooted && w != 0)) = (w != base rooted) := by
  cases rooted <;> simp [base]

/-- the two guarded look-aheads of the `switch` in `Clean` never read out of range and decide `dotElem` -/
theorem dot_checks {α : Type} (pkg : Bytes) (r : Nat) (c : UInt8) (rest : Bytes) (hd : pkg.drop r = c :: rest) (K : Out α) :
    ((if c = dot then (if r + 1 = pkg.length then Out.ok true else (idx pkg (r + 1)).bind fun d => .ok (decide (d = slash)))
       else .ok false).bind fun (isDot : Bool) =>
      if isDot then .err .pkgDot else
      (if c = dot then (idx pkg (r + 1)).bind fun d =>
          if d = dot then (if r + 2 = pkg.length then .ok true else (idx pkg (r + 2)).bind fun e => .ok (decide (e = slash)))
          else .ok false
       else .ok false).bind fun (isDotDot : Bool) =>
      if isDotDot then .err .pkgDot else K) =
    if c = dot ∧ dotElem rest = true then .err .pkgDot else K := by
  obtain ⟨hd1, hlen⟩ := of_drop_eq_cons hd
  by_cases hc : c = dot
  · cases rest with
    | nil => simp [hc, show r + 1 = pkg.length from hlen.symm, dotElem]
    | cons d rest2 =>
      obtain ⟨hd2, hlen2⟩ := of_drop_eq_cons hd1
      have hne : r + 1 ≠ pkg.length := by simp only [List.length_cons] at hlen; omega
      simp only [hc, ↓reduceIte, hne, idx_of_drop hd1, Out.ok_bind, true_and, dotElem]
      by_cases hds : d = slash
      · simp [hds]
      · simp only [hds, decide_false, Bool.false_eq_true, ↓reduceIte]
        by_cases hdd : d = dot
        · cases rest2 with
          | nil => simp [hdd, show r + 2 = pkg.length from hlen2.symm]
          | cons e rest3 =>
            have hne2 : r + 2 ≠ pkg.length := by simp only [List.length_cons] at hlen2; omega
            simp only [hdd, ↓reduceIte, hne2, idx_of_drop hd2, Out.ok_bind, decide_eq_true_eq]
        · simp [hdd]
  · simp [hc]

/-- The loop of `Clean` with the buffer it fills, against `scan`. The write position `v.length` is never ahead of the
read position `r`, and is behind it wherever a separator has to be written: once something is written past the root,
an element that starts at `r` has a `/` in front of it. -/
theorem cleanLoop_eq (pkg : Bytes) (rooted : Bool) :
    ∀ (fuel r : Nat) (out : LazyBuf) (v : Bytes), out.Holds pkg v →
      fuel > (pkg.drop r).length → base rooted ≤ v.length → v.length ≤ r →
      ((v.length != base rooted) = true → ∀ c ∈ (pkg.drop r).head?, elemByte c = true → v.length < r) →
      (cleanLoop pkg pkg.length rooted fuel r out).bind LazyBuf.string =
        ofExcept ((scan (v.length != base rooted) false (pkg.drop r)).map (v ++ ·)) := by
  intro fuel
  induction fuel with
  | zero => intro r out v _ h; omega
  | succ fuel ih =>
    intro r out v hout hfuel hbase hvr hinv
    unfold cleanLoop
    cases hd : pkg.drop r with
    | nil =>
      have : ¬ r < pkg.length := Nat.not_lt.mpr (List.drop_eq_nil_iff.mp hd)
      simp only [this, ↓reduceIte, Out.ok_bind, scan, LazyBuf.string_ok hout, Except.map, List.append_nil, ofExcept_ok]
    | cons c rest =>
      obtain ⟨hd1, hlen⟩ := of_drop_eq_cons hd
      rw [hd] at hfuel hinv
      simp only [List.length_cons] at hfuel
      simp only [show r < pkg.length by omega, ↓reduceIte, idx_of_drop hd, Out.ok_bind]
      by_cases hcc : c = colon
      · simp only [hcc, ↓reduceIte, scan, Out.err_bind, Except.map, ofExcept_error]
      by_cases hcs : c = slash
      · have := ih (r + 1) out v hout (by rw [hd1]; omega) hbase (by omega) (fun _ _ _ _ => by omega)
        rw [hd1] at this
        simp only [hcs, show ¬ slash = colon by decide, ↓reduceIte, scan, this]
      have hce : elemByte c = true := by simp [elemByte, hcc, hcs]
      simp only [hcc, hcs, ↓reduceIte]
      rw [dot_checks pkg r c rest hd]
      by_cases hdot : c = dot ∧ dotElem rest = true
      · simp only [if_pos hdot, scan, hcc, hcs, ↓reduceIte, Bool.false_eq_true, Out.err_bind, Except.map, ofExcept_error]
      rw [if_neg hdot, cond_base, ← hout.length, scan_elem_start _ c rest hce hdot]
      have hroom : v.length + (if (v.length != base rooted) = true then [slash] else []).length ≤ r := by
        split
        · exact hinv ‹_› c rfl hce
        · exact hvr
      obtain ⟨o2, h2, hK⟩ := writeElem_ok pkg r out v (v.length != base rooted) hout hroom (by omega)
      have hdrop : pkg.drop (r + ((pkg.drop r).takeWhile elemByte).length) = rest.dropWhile elemByte := by
        rw [← List.drop_drop, drop_length_takeWhile, hd, List.dropWhile_cons_of_pos hce]
      have hlenr := (List.dropWhile_sublist elemByte (l := rest)).length_le
      have hv2 : ((v ++ (if (v.length != base rooted) = true then [slash] else []) ++
          (pkg.drop r).takeWhile elemByte).length != base rooted) = true := by
        rw [hd, List.takeWhile_cons_of_pos hce]
        simp only [List.length_append, List.length_cons, bne_iff_ne, ne_eq]
        omega
      rw [hK, ih _ o2 _ h2 (by rw [hdrop]; omega) (by simp only [List.length_append]; omega)
        (by simp only [List.length_append]; omega)
        (fun _ c hc he => by rw [hdrop] at hc; rw [head?_dropWhile_elemByte rest c hc] at he; cases he),
        hdrop, hv2, hd, List.takeWhile_cons_of_pos hce]
      cases scan true false (rest.dropWhile elemByte) <;> simp [Except.map]

theorem hasPrefixSS_iff {s : Bytes} : hasPrefixSS s = true ↔ ∃ t, s = slash :: slash :: t := by
  match s with
  | [] => simp [hasPrefixSS]
  | [_] => simp [hasPrefixSS]
  | x :: y :: t => simp [hasPrefixSS]

/-- `Clean`, as written in Go with every index guarded explicitly, computes the structural `clean`: it never
panics and never runs out of fuel -/
theorem cleanGo_eq (pkg : Bytes) : cleanGo pkg = ofExcept (clean pkg) := by
  cases pkg with
  | nil => rfl
  | cons x rest =>
    have hrooted : (if (x :: rest).length ≥ 2 then (idx (x :: rest) 0).bind fun a =>
          if a = slash then (idx (x :: rest) 1).bind fun b => .ok (decide (b = slash)) else .ok false
        else .ok false) = .ok (hasPrefixSS (x :: rest)) := by
      cases rest with
      | nil => rfl
      | cons y rest =>
        show (if x = slash then Out.ok (decide (y = slash)) else .ok false) = .ok (decide (x = slash ∧ y = slash))
        by_cases hx : x = slash <;> simp [hx]
    have h0 : LazyBuf.Holds ⟨x :: rest, none, 0⟩ (x :: rest) [] := ⟨rfl, Nat.zero_le _, fun _ h => (nomatch h), rfl⟩
    have hfuel : ∀ r, (x :: rest).length + 1 > ((x :: rest).drop r).length := fun r => by
      rw [List.length_drop]; omega
    simp only [cleanGo, clean, List.cons_ne_nil, ↓reduceIte, hrooted, Out.ok_bind]
    cases hp : hasPrefixSS (x :: rest) with
    | true =>
      obtain ⟨t, ht⟩ := hasPrefixSS_iff.mp hp
      obtain ⟨o1, ho1, h1⟩ := LazyBuf.append_ok slash h0 (Nat.succ_pos _)
      obtain ⟨o2, ho2, h2⟩ := LazyBuf.append_ok slash h1 (by rw [ht]; exact Nat.succ_lt_succ (Nat.succ_pos _))
      simp only [↓reduceIte, ho1, ho2, Out.ok_bind, Bool.not_true, Bool.false_eq_true]
      exact cleanLoop_eq _ true _ 2 o2 _ h2 (hfuel 2) (Nat.le_refl _) (Nat.le_refl _) (fun h => nomatch h)
    | false =>
      have hi : idx (x :: rest) 0 = .ok x := rfl
      simp only [Bool.false_eq_true, ↓reduceIte, Out.ok_bind, Bool.not_false, hi]
      by_cases hx : x = slash
      · simp only [hx, decide_true, ↓reduceIte, ofExcept_error]
      · simp only [hx, decide_false, Bool.false_eq_true, ↓reduceIte]
        rw [cleanLoop_eq _ false _ 0 _ _ h0 (hfuel 0) (Nat.le_refl _) (Nat.le_refl _) (fun h => nomatch h)]
        show ofExcept ((scan false false (x :: rest)).map ([] ++ ·)) = _
        cases scan false false (x :: rest) <;> rfl

theorem split_ne_nil (sep : UInt8) (l : Bytes) : ∃ h t, split sep l = h :: t := by
  induction l with
  | nil => exact ⟨[], [], rfl⟩
  | cons c rest ih =>
    obtain ⟨h, t, ht⟩ := ih
    by_cases hc : c = sep
    · exact ⟨[], h :: t, by simp [split, hc, ht]⟩
    · exact ⟨c :: h, t, by simp [split, hc, ht]⟩

theorem split_cons_sep (sep : UInt8) (rest : Bytes) : split sep (sep :: rest) = [] :: split sep rest := by
  simp [split]

theorem split_cons_ne {sep c : UInt8} {rest h : Bytes} {t : List Bytes} (hc : c ≠ sep) (hs : split sep rest = h :: t) :
    split sep (c :: rest) = (c :: h) :: t := by
  simp [split, hc, hs]

def comps (l : Bytes) : List Bytes := (split slash l).filter (· ≠ [])

/-- what the loop writes for a list of kept elements: a separator first when something was written before -/
def joinSt (st : Bool) (cs : List Bytes) : Bytes :=
  if cs = [] then [] else (if st then [slash] else []) ++ join slash cs

theorem join_cons (a : Bytes) (l : List Bytes) : join slash (a :: l) = a ++ joinSt true l := by
  cases l <;> simp [join, joinSt]

theorem joinSt_false (cs : List Bytes) : joinSt false cs = join slash cs := by
  cases cs <;> simp [joinSt, join]

theorem dotElem_iff (rest h : Bytes) (t : List Bytes) (hs : split slash rest = h :: t) :
    dotElem rest = true ↔ (h = [] ∨ h = [dot]) := by
  cases rest with
  | nil => simp [split] at hs; simp [dotElem, hs.1]
  | cons d rest' =>
    obtain ⟨h', t', ht'⟩ := split_ne_nil slash rest'
    by_cases hd : d = slash
    · subst hd
      rw [split_cons_sep] at hs
      simp only [List.cons.injEq] at hs
      simp [dotElem, ← hs.1]
    · rw [split_cons_ne hd ht'] at hs
      simp only [List.cons.injEq] at hs
      obtain ⟨rfl, rfl⟩ := hs
      simp only [dotElem, hd, ↓reduceIte, List.cons_ne_nil, List.cons.injEq, false_or]
      by_cases hdd : d = dot
      · subst hdd
        simp only [↓reduceIte, true_and]
        cases rest' with
        | nil => simp [split] at ht'; simp [ht'.1]
        | cons e rest'' =>
          obtain ⟨h'', t'', ht''⟩ := split_ne_nil slash rest''
          by_cases he : e = slash
          · subst he
            rw [split_cons_sep] at ht'
            simp only [List.cons.injEq] at ht'
            simp [← ht'.1]
          · rw [split_cons_ne he ht''] at ht'
            simp only [List.cons.injEq] at ht'
            simp [← ht'.1, he]
      · simp [hdd]

def specOut (st : Bool) (cs : List Bytes) : Except Err Bytes :=
  match firstBad cs with
  | some e => .error e
  | none => .ok (joinSt st cs)

theorem specOut_cons (st : Bool) (e : Bytes) (cs : List Bytes) :
    specOut st (e :: cs) =
      if colon ∈ e then .error .pkgColon
      else if e = [dot] ∨ e = [dot, dot] then .error .pkgDot
      else (specOut true cs).map fun t => (if st then [slash] else []) ++ e ++ t := by
  by_cases h1 : colon ∈ e
  · simp only [specOut, firstBad, h1, ↓reduceIte]
  by_cases h2 : e = [dot] ∨ e = [dot, dot]
  · simp only [specOut, firstBad, h1, h2, ↓reduceIte]
  simp only [specOut, firstBad, h1, h2, ↓reduceIte]
  cases firstBad cs with
  | some e' => rfl
  | none => simp only [Except.map, joinSt, List.cons_ne_nil, ↓reduceIte, join_cons, List.append_assoc]

/-- `scan` against the pieces between the slashes: between elements it answers for the elements still to come; inside
an element (`p0` is what is left of it) it first finishes that one -/
theorem scan_spec (rest : Bytes) :
    (∀ st, scan st false rest = specOut st (comps rest)) ∧
    (∀ p0 ps, split slash rest = p0 :: ps →
      scan true true rest = if colon ∈ p0 then .error .pkgColon else
        (specOut true (ps.filter (· ≠ []))).map (p0 ++ ·)) := by
  induction rest with
  | nil =>
    refine ⟨fun st => rfl, fun p0 ps h => ?_⟩
    cases h
    rfl
  | cons c rest ih =>
    obtain ⟨ihA, ihB⟩ := ih
    obtain ⟨h, t, hs⟩ := split_ne_nil slash rest
    by_cases hcc : c = colon
    · subst hcc
      have hsp := split_cons_ne (show colon ≠ slash by decide) hs
      refine ⟨fun st => ?_, fun p0 ps h' => ?_⟩
      · rw [comps, hsp, List.filter_cons_of_pos (by simp), specOut_cons, if_pos List.mem_cons_self]; rfl
      · rw [hsp] at h'
        cases h'
        rw [if_pos List.mem_cons_self]; rfl
    by_cases hcs : c = slash
    · subst hcs
      have hsp := split_cons_sep slash rest
      have hA : ∀ st, scan st false (slash :: rest) = specOut st (comps rest) := fun st => by
        rw [← ihA st]; simp only [scan, hcc, ↓reduceIte]
      refine ⟨fun st => ?_, fun p0 ps h' => ?_⟩
      · rw [hA, comps, comps, hsp, List.filter_cons_of_neg (by simp)]
      · rw [hsp] at h'
        cases h'
        rw [if_neg List.not_mem_nil, Except.map_id' _ List.nil_append]
        exact (show scan true true (slash :: rest) = scan true false rest by simp only [scan, hcc, ↓reduceIte]).trans (ihA true)
    · have hsp := split_cons_ne hcs hs
      have hB := ihB h t hs
      have hmem : colon ∈ c :: h ↔ colon ∈ h := by
        rw [List.mem_cons]; exact ⟨fun h' => h'.resolve_left (fun e => hcc e.symm), Or.inr⟩
      refine ⟨fun st => ?_, fun p0 ps h' => ?_⟩
      · have hdot : (c = dot ∧ dotElem rest = true) ↔ (c :: h = [dot] ∨ c :: h = [dot, dot]) := by
          rw [dotElem_iff rest h t hs, List.cons.injEq, List.cons.injEq, ← and_or_left]
        rw [comps, hsp, List.filter_cons_of_pos (by simp), specOut_cons]
        simp only [scan, hcc, hcs, ↓reduceIte, Bool.false_eq_true, hB, hmem, hdot]
        by_cases hch : colon ∈ h
        · have hnd : ¬ (c :: h = [dot] ∨ c :: h = [dot, dot]) := by
            rintro (h1 | h1) <;> cases h1
            · cases hch
            · exact absurd (List.mem_singleton.mp hch) (by decide)
          rw [if_neg hnd, if_pos hch, if_pos hch]; rfl
        · rw [if_neg hch, if_neg hch, Except.map_map']
          by_cases hd : c :: h = [dot] ∨ c :: h = [dot, dot]
          · rw [if_pos hd, if_pos hd]
          · rw [if_neg hd, if_neg hd]
            cases st <;> rfl
      · rw [hsp] at h'
        cases h'
        simp only [scan, hcc, hcs, ↓reduceIte, hB, hmem]
        split
        · rfl
        · rw [Except.map_map']; rfl

/-- the empty text needs no case of its own -/
theorem cleanSpec_eq (pkg : Bytes) :
    cleanSpec pkg =
      if !hasPrefixSS pkg ∧ pkg.head? = some slash then .error .absSingle
      else (specOut false (comps (if hasPrefixSS pkg then pkg.drop 2 else pkg))).map
        ((if hasPrefixSS pkg then [slash, slash] else []) ++ ·) := by
  by_cases hs : pkg = []
  · subst hs; rfl
  · simp only [cleanSpec, hs, ↓reduceIte, specOut, comps, joinSt_false]
    by_cases h1 : (!hasPrefixSS pkg) = true ∧ pkg.head? = some slash
    · rw [if_pos h1, if_pos h1]
    · rw [if_neg h1, if_neg h1]
      cases firstBad _ <;> rfl

theorem clean_eq_spec (pkg : Bytes) : clean pkg = cleanSpec pkg := by
  rw [cleanSpec_eq]
  cases pkg with
  | nil => rfl
  | cons x rest =>
    simp only [clean, (scan_spec _).1, List.head?_cons, Option.some.injEq]
    cases hasPrefixSS (x :: rest) with
    | true => rfl
    | false =>
      simp only [Bool.false_eq_true, ↓reduceIte, Bool.not_false, true_and]
      split
      · rfl
      · exact (Except.map_id' _ List.nil_append _).symm


theorem indexByte_none {c : UInt8} {s : Bytes} : indexByte c s = none ↔ c ∉ s := by
  induction s with
  | nil => simp [indexByte]
  | cons x s ih =>
    simp only [indexByte, List.mem_cons, not_or]
    by_cases hx : x = c
    · simp [hx]
    · simp only [hx, ↓reduceIte, Option.map_eq_none_iff, ih]
      exact ⟨fun h => ⟨fun h' => hx h'.symm, h⟩, fun h => h.2⟩

theorem indexByte_some {c : UInt8} {s : Bytes} {i : Nat} (h : indexByte c s = some i) :
    i < s.length ∧ c ∉ s.take i := by
  induction s generalizing i with
  | nil => cases h
  | cons x s ih =>
    simp only [indexByte] at h
    by_cases hx : x = c
    · simp only [hx, ↓reduceIte, Option.some.injEq] at h
      subst h; simp
    · simp only [hx, ↓reduceIte, Option.map_eq_some_iff] at h
      obtain ⟨j, hj, rfl⟩ := h
      have := ih hj
      simp only [List.length_cons, List.take_succ_cons, List.mem_cons, not_or]
      exact ⟨by omega, fun h' => hx h'.symm, this.2⟩

theorem indexByte_append {c : UInt8} (a b : Bytes) (h : c ∉ a) : indexByte c (a ++ c :: b) = some a.length := by
  induction a with
  | nil => simp [indexByte]
  | cons x a ih =>
    simp only [List.mem_cons, not_or] at h
    have hx : x ≠ c := fun h' => h.1 h'.symm
    simp [indexByte, hx, ih h.2]

theorem lastIndexByte_none {c : UInt8} {s : Bytes} : lastIndexByte c s = none ↔ c ∉ s := by
  induction s with
  | nil => simp [lastIndexByte]
  | cons x s ih =>
    rw [lastIndexByte, List.mem_cons, not_or, ← ih]
    cases lastIndexByte c s with
    | some j => simp
    | none => by_cases hx : x = c <;> simp [hx, Ne.symm]

theorem lastIndexByte_some {c : UInt8} {s : Bytes} {i : Nat} (h : lastIndexByte c s = some i) :
    i < s.length ∧ c ∉ s.drop (i + 1) := by
  induction s generalizing i with
  | nil => cases h
  | cons x s ih =>
    rw [lastIndexByte] at h
    cases hl : lastIndexByte c s with
    | some j =>
      rw [hl] at h
      cases h
      exact ⟨Nat.succ_lt_succ (ih hl).1, (ih hl).2⟩
    | none =>
      rw [hl] at h
      dsimp only at h
      split at h
      · cases h
        exact ⟨Nat.succ_pos _, lastIndexByte_none.mp hl⟩
      · cases h

theorem lastIndexByte_append {c : UInt8} (a b : Bytes) (h : c ∉ b) : lastIndexByte c (a ++ c :: b) = some a.length := by
  induction a with
  | nil => simp [lastIndexByte, lastIndexByte_none.mpr h]
  | cons x a ih => simp [lastIndexByte, ih]

theorem indexSS_cons (x : UInt8) (s : Bytes) :
    indexSS (x :: s) = if x = slash ∧ s.head? = some slash then some 0 else (indexSS s).map (· + 1) := by
  cases s <;> simp [indexSS]

theorem indexSS_no_slash (a : Bytes) (ha : slash ∉ a) : indexSS a = none := by
  induction a with
  | nil => rfl
  | cons x a ih =>
    rw [List.mem_cons, not_or] at ha
    rw [indexSS_cons, if_neg (fun h => ha.1 h.1.symm), ih ha.2]; rfl

theorem indexSS_elem_sep (a t : Bytes) (ha : slash ∉ a) (hne : a ≠ []) (ht : t.head? ≠ some slash) (hn : indexSS t = none) :
    indexSS (a ++ slash :: t) = none := by
  induction a with
  | nil => exact absurd rfl hne
  | cons x a ih =>
    rw [List.mem_cons, not_or] at ha
    rw [List.cons_append, indexSS_cons, if_neg (fun h => ha.1 h.1.symm)]
    cases a with
    | nil => rw [List.nil_append, indexSS_cons, if_neg (fun h => ht h.2), hn]; rfl
    | cons z a => rw [ih ha.2 (List.cons_ne_nil _ _)]; rfl

/-- the first `//` of a text: in front of it there is none, not even one made with the first of its two slashes -/
theorem indexSS_some {s : Bytes} {i : Nat} (h : indexSS s = some i) :
    i + 2 ≤ s.length ∧ indexSS (s.take i ++ [slash]) = none ∧ hasPrefixSS (s.drop i) = true := by
  induction s generalizing i with
  | nil => cases h
  | cons x s ih =>
    rw [indexSS_cons] at h
    split at h
    · rename_i hc
      cases h
      obtain ⟨t, rfl⟩ : ∃ t, s = slash :: t := by
        cases s with
        | nil => cases hc.2
        | cons y t => exact ⟨t, by rw [Option.some.inj hc.2]⟩
      exact ⟨Nat.le_add_left 2 _, rfl, by rw [hc.1]; rfl⟩
    · rename_i hc
      obtain ⟨j, hj, rfl⟩ := Option.map_eq_some_iff.mp h
      obtain ⟨h1, h2, h3⟩ := ih hj
      refine ⟨Nat.succ_le_succ h1, ?_, h3⟩
      have hhead : (s.take j ++ [slash]).head? = some slash → s.head? = some slash := by
        cases j with
        | zero => obtain ⟨t, rfl⟩ := hasPrefixSS_iff.mp h3; exact fun _ => rfl
        | succ j =>
          cases s with
          | nil => exact absurd h1 (by simp)
          | cons y s => exact id
      rw [List.take_succ_cons, List.cons_append, indexSS_cons, if_neg (fun h' => hc ⟨h'.1, hhead h'.2⟩), h2]
      rfl

theorem indexSS_append (a b : Bytes) (h : indexSS (a ++ [slash]) = none) (hb : hasPrefixSS b = true) :
    indexSS (a ++ b) = some a.length := by
  obtain ⟨t, rfl⟩ := hasPrefixSS_iff.mp hb
  induction a with
  | nil => rfl
  | cons x a ih =>
    rw [List.cons_append, indexSS_cons] at h ⊢
    rw [show (a ++ slash :: slash :: t).head? = (a ++ [slash]).head? by cases a <;> rfl]
    split at h
    · cases h
    · rename_i hc
      rw [if_neg hc, ih (Option.map_eq_none_iff.mp h)]
      rfl


structure GoodComps (cs : List Bytes) : Prop where
  elem : ∀ e ∈ cs, e ≠ [] ∧ slash ∉ e
  ok : firstBad cs = none

theorem mem_split_no_sep (sep : UInt8) (l : Bytes) : ∀ e ∈ split sep l, sep ∉ e := by
  induction l with
  | nil => exact List.forall_mem_cons.mpr ⟨List.not_mem_nil, nofun⟩
  | cons c rest ih =>
    obtain ⟨h, t, hs⟩ := split_ne_nil sep rest
    rw [hs] at ih
    by_cases hc : c = sep
    · rw [hc, split_cons_sep, hs]
      exact List.forall_mem_cons.mpr ⟨List.not_mem_nil, ih⟩
    · rw [split_cons_ne hc hs]
      obtain ⟨ihh, iht⟩ := List.forall_mem_cons.mp ih
      exact List.forall_mem_cons.mpr ⟨List.not_mem_cons_of_ne_of_not_mem (Ne.symm hc) ihh, iht⟩

theorem firstBad_none_colon {cs : List Bytes} (h : firstBad cs = none) : ∀ e ∈ cs, colon ∉ e := by
  induction cs with
  | nil => exact nofun
  | cons e cs ih =>
    rw [firstBad] at h
    split at h
    · cases h
    · split at h
      · cases h
      · exact List.forall_mem_cons.mpr ⟨‹_›, ih h⟩

theorem split_no_sep (sep : UInt8) (a : Bytes) (h : sep ∉ a) : split sep a = [a] := by
  induction a with
  | nil => rfl
  | cons c a ih =>
    simp only [List.mem_cons, not_or] at h
    exact split_cons_ne (fun h' => h.1 h'.symm) (ih h.2)

theorem split_append (sep : UInt8) (a b : Bytes) : split sep (a ++ sep :: b) = split sep a ++ split sep b := by
  induction a with
  | nil => simp [split]
  | cons c a ih =>
    obtain ⟨h, t, hs⟩ := split_ne_nil sep a
    by_cases hc : c = sep
    · subst hc
      simp only [List.cons_append, split_cons_sep, ih]
    · have hs' : split sep (a ++ sep :: b) = h :: (t ++ split sep b) := by rw [ih, hs]; rfl
      rw [List.cons_append, split_cons_ne hc hs', split_cons_ne hc hs]
      rfl

theorem split_append_sep (sep : UInt8) (a t : Bytes) (h : sep ∉ a) :
    split sep (a ++ sep :: t) = a :: split sep t := by
  rw [split_append, split_no_sep sep a h]; rfl

theorem split_join (cs : List Bytes) (h : ∀ e ∈ cs, slash ∉ e) (hne : cs ≠ []) :
    split slash (join slash cs) = cs := by
  induction cs with
  | nil => exact absurd rfl hne
  | cons a cs ih =>
    cases cs with
    | nil => exact split_no_sep slash a (h a List.mem_cons_self)
    | cons b cs =>
      have := ih (fun e he => h e (List.mem_cons_of_mem _ he)) (by simp)
      simp only [join]
      rw [split_append_sep slash a _ (h a List.mem_cons_self), this]

theorem comps_join (cs : List Bytes) (h : GoodComps cs) : comps (join slash cs) = cs := by
  unfold comps
  by_cases hne : cs = []
  · subst hne; simp [join, split]
  · rw [split_join cs (fun e he => (h.elem e he).2) hne]
    exact List.filter_eq_self.mpr fun e he => by simpa using (h.elem e he).1

theorem mem_join (sep : UInt8) (cs : List Bytes) (x : UInt8) (hx : x ∈ join sep cs) : x = sep ∨ ∃ e ∈ cs, x ∈ e := by
  induction cs with
  | nil => simp [join] at hx
  | cons a cs ih =>
    cases cs with
    | nil => exact Or.inr ⟨a, List.mem_cons_self, by simpa [join] using hx⟩
    | cons b cs =>
      simp only [join, List.mem_append, List.mem_cons] at hx
      rcases hx with hx | hx | hx
      · exact Or.inr ⟨a, List.mem_cons_self, hx⟩
      · exact Or.inl hx
      · rcases ih (by simpa [join] using hx) with h | ⟨e, he, hxe⟩
        · exact Or.inl h
        · exact Or.inr ⟨e, List.mem_cons_of_mem _ he, hxe⟩

theorem join_first (sep : UInt8) (a : Bytes) (cs : List Bytes) :
    ∃ t, join sep (a :: cs) = a ++ t ∧ (t = [] ∨ t.head? = some sep) := by
  cases cs with
  | nil => exact ⟨[], by simp [join], Or.inl rfl⟩
  | cons b cs => exact ⟨sep :: join sep (b :: cs), by simp [join], Or.inr rfl⟩

theorem join_head_of (cs : List Bytes) (hne : cs ≠ []) (h : ∀ e ∈ cs, e ≠ [] ∧ slash ∉ e) :
    join slash cs ≠ [] ∧ (join slash cs).head? ≠ some slash := by
  cases cs with
  | nil => exact absurd rfl hne
  | cons a cs =>
    obtain ⟨t, ht, _⟩ := join_first slash a cs
    have ha := h a List.mem_cons_self
    rw [ht]
    cases a with
    | nil => exact absurd rfl ha.1
    | cons x a =>
      have hx : x ≠ slash := fun h' => ha.2 (h' ▸ List.mem_cons_self)
      simp [hx]

theorem join_head (cs : List Bytes) (h : ∀ e ∈ cs, e ≠ [] ∧ slash ∉ e) : (join slash cs).head? ≠ some slash := by
  cases cs with
  | nil => exact nofun
  | cons a cs => exact (join_head_of _ (List.cons_ne_nil _ _) h).2

theorem indexSS_join (cs : List Bytes) (h : ∀ e ∈ cs, e ≠ [] ∧ slash ∉ e) : indexSS (join slash cs) = none := by
  induction cs with
  | nil => rfl
  | cons a cs ih =>
    obtain ⟨ha, hcs⟩ := List.forall_mem_cons.mp h
    cases cs with
    | nil => exact indexSS_no_slash a ha.2
    | cons b cs =>
      simp only [join]
      exact indexSS_elem_sep a _ ha.2 ha.1 (join_head _ hcs) (ih hcs)

/-- a cleaned package path: the root marker, if there is one, and the kept elements -/
def pkgText (rooted : Bool) (cs : List Bytes) : Bytes := (if rooted then [slash, slash] else []) ++ join slash cs

theorem cleanSpec_shape {s t : Bytes} (h : cleanSpec s = .ok t) : ∃ cs, GoodComps cs ∧ t = pkgText (hasPrefixSS s) cs := by
  rw [cleanSpec_eq] at h
  split at h
  · cases h
  · cases hfb : firstBad (comps (if hasPrefixSS s then s.drop 2 else s)) with
    | some e => rw [specOut, hfb] at h; cases h
    | none =>
      rw [specOut, hfb] at h
      cases h
      refine ⟨_, ⟨fun e he => ?_, hfb⟩, by rw [joinSt_false]; rfl⟩
      have h2 := List.mem_filter.mp he
      exact ⟨by simpa using h2.2, mem_split_no_sep slash _ e h2.1⟩

theorem hasPrefixSS_pkgText (rooted : Bool) (cs : List Bytes) (h : GoodComps cs) : hasPrefixSS (pkgText rooted cs) = rooted := by
  cases rooted with
  | true => rfl
  | false =>
    cases hp : hasPrefixSS (pkgText false cs) with
    | false => rfl
    | true =>
      obtain ⟨t, ht⟩ := hasPrefixSS_iff.mp hp
      exact absurd (by rw [show join slash cs = pkgText false cs from rfl, ht]; rfl) (join_head cs h.elem)

theorem colon_not_mem_pkgText (rooted : Bool) (cs : List Bytes) (h : GoodComps cs) : colon ∉ pkgText rooted cs := by
  intro hm
  rcases List.mem_append.mp hm with hm | hm
  · cases rooted <;> revert hm <;> decide
  · rcases mem_join slash cs colon hm with h' | ⟨e, he, hxe⟩
    · exact absurd h' (by decide)
    · exact firstBad_none_colon h.ok e he hxe

theorem cleanSpec_pkgText (rooted : Bool) (cs : List Bytes) (h : GoodComps cs) :
    cleanSpec (pkgText rooted cs) = .ok (pkgText rooted cs) := by
  have hbody : (if rooted then (pkgText rooted cs).drop 2 else pkgText rooted cs) = join slash cs := by
    cases rooted <;> rfl
  have hhead : ¬ ((!rooted) = true ∧ (pkgText rooted cs).head? = some slash) := by
    rintro ⟨hr, hh⟩
    cases rooted with
    | true => cases hr
    | false => exact join_head cs h.elem hh
  rw [cleanSpec_eq, hasPrefixSS_pkgText rooted cs h, if_neg hhead, hbody, comps_join cs h, specOut, h.ok, joinSt_false]
  rfl


def splitKind (kpp : Bytes) : Bytes × Bytes :=
  match indexByte colon kpp with
  | some kc => (kpp.take kc, kpp.drop (kc + 1))
  | none => ([], kpp)

def splitProject (pp : Bytes) : Bytes × Bytes :=
  match indexSS pp with
  | some i => (pp.take i, pp.drop i)
  | none => ([], pp)

/-- `Parse` once the name is cut off: `kpp` is the text in front of the last `:` -/
def parseRest (kpp name : Bytes) : Except Err Label :=
  let kp := splitKind kpp
  let pp := splitProject kp.2
  if colon ∈ pp.1 then .error .projectColon else
  (cleanSpec pp.2).bind fun pkg =>
    if slash ∈ name then .error .nameSlash else
    let l : Label := ⟨kp.1, pp.1, pkg, name⟩
    if pp.1 ≠ [] ∧ !l.isAbs then .error .projectRel else .ok l

/-- `Parse` without the run-time checks of Go's indexing (which `parseGo_eq` shows never fire) -/
def parse (raw : Bytes) : Except Err Label :=
  let nameColon := (lastIndexByte colon raw).getD raw.length
  parseRest (raw.take nameColon) (if nameColon < raw.length then raw.drop (nameColon + 1) else [])

theorem splitKindGo_eq (kpp : Bytes) : splitKindGo kpp = .ok (splitKind kpp) := by
  unfold splitKindGo splitKind
  cases h : indexByte colon kpp with
  | none => rfl
  | some kc =>
    have := (indexByte_some h).1
    simp only [slice_zero (Nat.le_of_lt this), slice_to_end (Nat.succ_le_of_lt this), Out.ok_bind]

theorem splitProjectGo_eq (pp : Bytes) : splitProjectGo pp = .ok (splitProject pp) := by
  unfold splitProjectGo splitProject
  cases h : indexSS pp with
  | none => rfl
  | some i =>
    have := (indexSS_some h).1
    simp only [slice_zero (show i ≤ pp.length by omega), slice_to_end (show i ≤ pp.length by omega), Out.ok_bind]

theorem cleanGo_spec (pkg : Bytes) : cleanGo pkg = ofExcept (cleanSpec pkg) := by
  rw [cleanGo_eq, clean_eq_spec]

theorem ofExcept_bind {α β : Type} (x : Except Err α) (f : α → Except Err β) :
    ofExcept (x.bind f) = (ofExcept x).bind fun a => ofExcept (f a) := by
  cases x <;> rfl

theorem Out.ite_bind {α β : Type} (c : Prop) [Decidable c] (a b : Out α) (f : α → Out β) :
    (if c then a else b).bind f = if c then a.bind f else b.bind f := by
  split <;> rfl

theorem parseGo_eq (raw : Bytes) : parseGo raw = ofExcept (parse raw) := by
  have hnc : (lastIndexByte colon raw).getD raw.length ≤ raw.length := by
    cases h : lastIndexByte colon raw with
    | none => exact Nat.le_refl _
    | some i => exact Nat.le_of_lt (lastIndexByte_some h).1
  unfold parseGo parse parseRest
  generalize (lastIndexByte colon raw).getD raw.length = nameColon at hnc
  simp only [slice_zero hnc, Out.ok_bind, splitKindGo_eq, splitProjectGo_eq, cleanGo_spec, apply_ite ofExcept, ofExcept_bind,
    ofExcept_ok, ofExcept_error]
  -- the two sides differ in the name: Go slices it under the guard, `parse` takes the suffix
  by_cases hn : nameColon < raw.length
  · simp only [hn, ↓reduceIte, slice_to_end (Nat.succ_le_of_lt hn), Out.ok_bind, Out.ite_bind, Out.err_bind, Nat.succ_eq_add_one]
  · simp only [hn, ↓reduceIte, Out.ok_bind, List.not_mem_nil]

theorem parseGo_ok {raw : Bytes} {l : Label} : parseGo raw = .ok l ↔ parse raw = .ok l := by
  rw [parseGo_eq, ofExcept_eq_ok]

/-- what every label accepted by `Parse` (and every label `RelativeTo` or `New` makes) looks like -/
structure Label.WF (l : Label) : Prop where
  kind : colon ∉ l.kind
  projColon : colon ∉ l.project
  projSS : indexSS (l.project ++ [slash]) = none
  pkg : ∃ rooted cs, GoodComps cs ∧ (rooted = false → l.project = []) ∧ l.pkg = pkgText rooted cs
  nameColon : colon ∉ l.name
  nameSlash : slash ∉ l.name

theorem Label.WF.of_clean {k p b g n : Bytes} (hk : colon ∉ k) (hpc : colon ∉ p) (hss : indexSS (p ++ [slash]) = none)
    (hc : cleanSpec b = .ok g) (habs : p ≠ [] → hasPrefixSS g = true)
    (hnc : colon ∉ n) (hns : slash ∉ n) : (⟨k, p, g, n⟩ : Label).WF := by
  obtain ⟨cs, hcs, rfl⟩ := cleanSpec_shape hc
  refine ⟨hk, hpc, hss, ⟨hasPrefixSS b, cs, hcs, fun hr => ?_, rfl⟩, hnc, hns⟩
  apply Decidable.byContradiction
  intro hp
  have := habs hp
  rw [hasPrefixSS_pkgText _ _ hcs, hr] at this
  cases this

theorem splitKind_fst (kpp : Bytes) : colon ∉ (splitKind kpp).1 := by
  unfold splitKind
  cases h : indexByte colon kpp with
  | none => exact List.not_mem_nil
  | some kc => exact (indexByte_some h).2

theorem splitProject_fst (pp : Bytes) : indexSS ((splitProject pp).1 ++ [slash]) = none := by
  unfold splitProject
  cases h : indexSS pp with
  | none => rfl
  | some i => exact (indexSS_some h).2.1

theorem parseRest_wf {kpp n : Bytes} {l : Label} (h : parseRest kpp n = .ok l) (hn : colon ∉ n) : l.WF := by
  unfold parseRest at h
  simp only at h
  have hk := splitKind_fst kpp
  generalize splitKind kpp = kp at h hk
  have hp1 := splitProject_fst kp.2
  generalize splitProject kp.2 = pp at h hp1
  simp only [ite_error_eq_ok, bind_eq_ok, Except.ok.injEq] at h
  obtain ⟨hpc, pkg, hcl, hsl, habs, rfl⟩ := h
  refine .of_clean hk hpc hp1 hcl (fun hne => ?_) hn hsl
  simpa [Label.isAbs, hne] using habs

theorem parse_wf {raw : Bytes} {l : Label} (h : parse raw = .ok l) : l.WF := by
  refine parseRest_wf h ?_
  cases hl : lastIndexByte colon raw with
  | none => simp
  | some i =>
    simp only [Option.getD_some]
    split
    · exact (lastIndexByte_some hl).2
    · exact List.not_mem_nil

theorem parse_no_colon {s : Bytes} (h : colon ∉ s) : parse s = parseRest s [] := by
  unfold parse
  simp only [lastIndexByte_none.mpr h, Option.getD_none, List.take_length, Nat.lt_irrefl, ↓reduceIte]

theorem parse_colon (a n : Bytes) (h : colon ∉ n) : parse (a ++ colon :: n) = parseRest a n := by
  have hlen : a.length < (a ++ colon :: n).length := by simp
  unfold parse
  simp only [lastIndexByte_append a n h, Option.getD_some, hlen, ↓reduceIte, List.take_left' rfl]
  rw [← List.drop_drop, List.drop_left' rfl]
  rfl

theorem splitKind_no_colon {s : Bytes} (h : colon ∉ s) : splitKind s = ([], s) := by
  unfold splitKind; rw [indexByte_none.mpr h]

theorem splitKind_print {k s : Bytes} (hk : colon ∉ k) (hs : colon ∉ s) :
    splitKind ((if k ≠ [] then k ++ [colon] else []) ++ s) = (k, s) := by
  by_cases h : k = []
  · subst h; exact splitKind_no_colon hs
  · rw [if_pos h, List.append_assoc, List.singleton_append]
    unfold splitKind
    rw [indexByte_append k s hk]
    show ((k ++ colon :: s).take k.length, (k ++ colon :: s).drop (k.length + 1)) = (k, s)
    rw [List.take_left' rfl, ← List.drop_drop, List.drop_left' rfl]
    rfl

theorem parse_print {l : Label} (hwf : l.WF) (hside : l.name ≠ [] ∨ l.kind = []) : parse (print l) = .ok l := by
  obtain ⟨k, p, g, n⟩ := l
  obtain ⟨hk, hpc, hpss, ⟨rooted, cs, hcs, hproj, hg⟩, hnc, hns⟩ := hwf
  simp only at hk hpc hpss hproj hg hnc hns hside
  subst hg
  have hpgc : colon ∉ p ++ pkgText rooted cs := by
    simp only [List.mem_append, not_or]; exact ⟨hpc, colon_not_mem_pkgText rooted cs hcs⟩
  have hsp : splitProject (p ++ pkgText rooted cs) = (p, pkgText rooted cs) := by
    unfold splitProject
    cases rooted with
    | false => rw [hproj rfl, List.nil_append, show pkgText false cs = join slash cs from rfl, indexSS_join cs hcs.elem]
    | true =>
      rw [indexSS_append p _ hpss (hasPrefixSS_pkgText true cs hcs)]
      show ((p ++ pkgText true cs).take p.length, (p ++ pkgText true cs).drop p.length) = _
      rw [List.take_left' rfl, List.drop_left' rfl]
  have hrest : ∀ kpp, splitKind kpp = (k, p ++ pkgText rooted cs) → parseRest kpp n = .ok ⟨k, p, pkgText rooted cs, n⟩ := by
    intro kpp hkpp
    have habs : ¬ (p ≠ [] ∧ (!hasPrefixSS (pkgText rooted cs)) = true) := by
      rw [hasPrefixSS_pkgText rooted cs hcs]
      rintro ⟨h1, h2⟩
      exact h1 (hproj (by simpa using h2))
    simp only [parseRest, hkpp, hsp, hpc, ↓reduceIte, cleanSpec_pkgText rooted cs hcs, Except.bind, hns, Label.isAbs, habs]
  unfold print
  by_cases hn : n = []
  · have hk' : k = [] := hside.resolve_left (fun h => h hn)
    subst hn hk'
    simp only [ne_eq, not_true_eq_false, ↓reduceIte, List.nil_append, List.append_nil]
    rw [parse_no_colon hpgc]
    exact hrest _ (splitKind_no_colon hpgc)
  · simp only [ne_eq, hn, not_false_eq_true, ↓reduceIte]
    rw [parse_colon _ _ hnc, List.append_assoc]
    exact hrest _ (splitKind_print hk hpgc)


theorem print_injective {l₁ l₂ : Label} (h₁ : l₁.WF) (h₂ : l₂.WF) (hs₁ : l₁.name ≠ [] ∨ l₁.kind = [])
    (hs₂ : l₂.name ≠ [] ∨ l₂.kind = []) (h : print l₁ = print l₂) : l₁ = l₂ := by
  have r := parse_print h₁ hs₁
  rw [h, parse_print h₂ hs₂] at r
  exact (Except.ok.inj r).symm


theorem joinBuf_nil (elems : List Bytes) (h : (elems.map List.length).sum = 0) : joinBuf [] elems = [] := by
  induction elems with
  | nil => rfl
  | cons e rest ih =>
    rw [List.map_cons, List.sum_cons, Nat.add_eq_zero_iff] at h
    rw [joinBuf, if_neg (fun h' => h'.elim (fun h'' => h'' rfl) (fun h'' => h'' (List.eq_nil_of_length_eq_zero h.1))), ih h.2]

/-- `Join`: when every element is empty the joined text is empty, and `Clean` of the empty text is the empty text -/
theorem joinGo_eq (elems : List Bytes) : joinGo elems = ofExcept (cleanSpec (joinBuf [] elems)) := by
  unfold joinGo
  split
  · rename_i h; rw [joinBuf_nil elems h]; rfl
  · exact cleanGo_spec _

def relativeTo (l : Label) (pkg : Bytes) : Except Err Label :=
  if l.isAbs then .ok l else (cleanSpec (joinBuf [] [pkg, l.pkg])).bind fun p => .ok { l with pkg := p }

theorem relativeToGo_eq (l : Label) (pkg : Bytes) : relativeToGo l pkg = ofExcept (relativeTo l pkg) := by
  simp only [relativeToGo, relativeTo, joinGo_eq, apply_ite ofExcept, ofExcept_bind, ofExcept_ok]

def new (kind project pkg name : Bytes) : Except Err Label :=
  if colon ∈ kind ∨ slash ∈ kind then .error .kindBad else
  if colon ∈ project then .error .projectColon else
  (cleanSpec pkg).bind fun pkg =>
  if project ≠ [] ∧ !hasPrefixSS pkg then .error .projectRelNew else
  if colon ∈ name ∨ slash ∈ name then .error .nameBad else .ok ⟨kind, project, pkg, name⟩

theorem newGo_eq (k p g n : Bytes) : newGo k p g n = ofExcept (new k p g n) := by
  simp only [newGo, new, cleanGo_spec, apply_ite ofExcept, ofExcept_bind, ofExcept_ok, ofExcept_error]

theorem relativeTo_wf {l l' : Label} {pkg : Bytes} (h : l.WF) (hr : relativeToGo l pkg = .ok l') :
    l'.WF ∧ l'.kind = l.kind ∧ l'.name = l.name := by
  rw [relativeToGo_eq, ofExcept_eq_ok, relativeTo] at hr
  split at hr
  · cases hr; exact ⟨h, rfl, rfl⟩
  · rename_i habs
    have hp : l.project = [] := by
      obtain ⟨rooted, cs, hcs, hproj, hg⟩ := h.pkg
      refine hproj ?_
      rw [Label.isAbs, hg, hasPrefixSS_pkgText rooted cs hcs] at habs
      simpa using habs
    obtain ⟨g, hc, hl'⟩ := bind_eq_ok.mp hr
    cases hl'
    exact ⟨.of_clean h.kind h.projColon h.projSS hc (fun hne => absurd hp hne) h.nameColon h.nameSlash, rfl, rfl⟩

/-- `New` looks for `:` in the project, not for `//`; the system passes the empty project -/
theorem new_wf {k p g n : Bytes} {l : Label} (hp : indexSS (p ++ [slash]) = none) (h : newGo k p g n = .ok l) :
    l.WF ∧ l.kind = k ∧ l.name = n := by
  rw [newGo_eq, ofExcept_eq_ok] at h
  simp only [new, ite_error_eq_ok, bind_eq_ok, Except.ok.injEq, not_or] at h
  obtain ⟨hk, hpc, g', hc, habs, hn, rfl⟩ := h
  exact ⟨.of_clean hk.1 hpc hp hc (fun hne => by simpa [hne] using habs) hn.1 hn.2, rfl, rfl⟩


end Dawn.Label
