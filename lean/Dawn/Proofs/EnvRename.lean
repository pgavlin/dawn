import Dawn.Proofs.EnvBasic
/-!
The fingerprint does not depend on addresses — C08_deterministic.

Two loads of the same project text build isomorphic value graphs at different Go addresses. `Renames ρ g g'`
says that `g'` is `g` with every object moved from address `a` to `ρ a` (all references renamed with it);
for an injective `ρ` the traversal of `g'` from `ρ root` emits exactly the opcodes of the traversal of `g`
from `root`: memo ids, ordinals of the `Recursive` marker and batch boundaries never mention an address.
-/
namespace Dawn.Env

def Val.rename (ρ : Nat → Nat) : Val → Val
  | .atom a => .atom a
  | .ref a => .ref (ρ a)

def renKvs (ρ : Nat → Nat) : List (Val × Val) → List (Val × Val)
  | [] => []
  | (k, v) :: rest => (k.rename ρ, v.rename ρ) :: renKvs ρ rest

def Obj.rename (ρ : Nat → Nat) : Obj → Obj
  | .tuple xs => .tuple (xs.map (Val.rename ρ))
  | .list xs => .list (xs.map (Val.rename ρ))
  | .dict kvs => .dict (renKvs ρ kvs)
  | .set xs => .set (xs.map (Val.rename ρ))
  | .target l => .target l
  | .builtin n r => .builtin n (r.rename ρ)
  | .code n m gl bc sg => .code n (m.rename ρ) (gl.rename ρ) bc (sg.rename ρ)
  | .func n d fv c => .func n (d.rename ρ) (fv.rename ρ) (c.rename ρ)
  | .mandatory => .mandatory
  | .other => .other

/-- `g'` is `g` with the object at every address `a` moved to `ρ a` -/
def Renames (ρ : Nat → Nat) (g g' : Heap) : Prop :=
  ∀ a, g'[ρ a]? = (g[a]?).map (Obj.rename ρ)

def renMemo (ρ : Nat → Nat) : List (Nat × Nat) → List (Nat × Nat)
  | [] => []
  | (k, v) :: rest => (ρ k, v) :: renMemo ρ rest

def EncSt.rename (ρ : Nat → Nat) (st : EncSt) : EncSt :=
  { st with memo := renMemo ρ st.memo, seen := st.seen.map ρ }

def Res.rename (ρ : Nat → Nat) : Res → Res
  | .error e => .error e
  | .ok (st, ops) => .ok (st.rename ρ, ops)

variable {ρ : Nat → Nat}

theorem lookup_rename (hρ : Function.Injective ρ) (m : List (Nat × Nat)) (a : Nat) :
    lookup (renMemo ρ m) (ρ a) = lookup m a := by
  induction m with
  | nil => rfl
  | cons p rest ih => simp only [renMemo, lookup, ih, hρ.eq_iff]

theorem indexOf_rename (hρ : Function.Injective ρ) (xs : List Nat) (a : Nat) :
    indexOf (xs.map ρ) (ρ a) = indexOf xs a := by
  induction xs with
  | nil => rfl
  | cons x rest ih => simp only [List.map, indexOf, ih, hρ.eq_iff]

theorem memoize_rename (hρ : Function.Injective ρ) (cfg : Cfg) (st : EncSt) (a : Nat) :
    (st.rename ρ).memoize cfg (ρ a) = (st.memoize cfg a).rename ρ := by
  simp [EncSt.memoize, EncSt.rename, renMemo, lookup_rename hρ]

theorem seen_rename (st : EncSt) (a : Nat) :
    ({ st.rename ρ with seen := (st.rename ρ).seen ++ [ρ a] } : EncSt) = ({ st with seen := st.seen ++ [a] } : EncSt).rename ρ := by
  simp [EncSt.rename]

theorem flattenKvs_rename (kvs : List (Val × Val)) :
    flattenKvs (renKvs ρ kvs) = (flattenKvs kvs).map (Val.rename ρ) := by
  induction kvs with
  | nil => rfl
  | cons p rest ih => obtain ⟨k, v⟩ := p; simp [renKvs, flattenKvs, ih]

theorem renKvs_eq_map (kvs : List (Val × Val)) :
    renKvs ρ kvs = kvs.map fun p => (p.1.rename ρ, p.2.rename ρ) := by
  induction kvs with
  | nil => rfl
  | cons p rest ih => obtain ⟨k, v⟩ := p; simp [renKvs, ih]

/-- renaming goes through the encoder's way of propagating an error -/
theorem Res.rename_bind {r : Res} {k k' : EncSt → List Op → Res} (hk : ∀ s o, k' (s.rename ρ) o = (k s o).rename ρ) :
    (match r.rename ρ with | .error e => .error e | .ok (s, o) => k' s o)
      = Res.rename ρ (match r with | .error e => .error e | .ok (s, o) => k s o) := by
  rcases r with e | ⟨s, o⟩
  · rfl
  · exact hk s o

theorem Res.rename_ite (c : Prop) [Decidable c] {a a' b b' : Res} (ha : a' = a.rename ρ) (hb : b' = b.rename ρ) :
    (if c then a' else b') = Res.rename ρ (if c then a else b) := by
  split <;> assumption

theorem encSeq_rename (f f' : EncSt → Val → Res)
    (hf : ∀ st x, f' (st.rename ρ) (x.rename ρ) = (f st x).rename ρ) (xs : List Val) (st : EncSt) :
    encSeq f' (st.rename ρ) (xs.map (Val.rename ρ)) = (encSeq f st xs).rename ρ := by
  induction xs generalizing st with
  | nil => rfl
  | cons x xs ih =>
    simp only [List.map, encSeq, hf]
    exact Res.rename_bind fun s₁ o₁ => by rw [ih]; exact Res.rename_bind fun _ _ => rfl

theorem encBatches_rename (hρ : Function.Injective ρ) (cfg : Cfg) (f f' : EncSt → Val → Res)
    (hf : ∀ st x, f' (st.rename ρ) (x.rename ρ) = (f st x).rename ρ) (self : Nat) (close : Op)
    (bs : List (List Val)) (first : Bool) (st : EncSt) :
    encBatches cfg f' (ρ self) close first (st.rename ρ) (bs.map (List.map (Val.rename ρ)))
      = (encBatches cfg f self close first st bs).rename ρ := by
  induction bs generalizing first st with
  | nil => rfl
  | cons b bs ih =>
    have hpre : lookup (st.rename ρ).memo (ρ self) = lookup st.memo self := lookup_rename hρ ..
    simp only [List.map, encBatches, encSeq_rename f f' hf, hpre]
    exact Res.rename_bind fun s₁ o₁ => by rw [ih]; exact Res.rename_bind fun _ _ => rfl

theorem map_renKvs_chunks (n : Nat) (kvs : List (Val × Val)) :
    (chunks n (renKvs ρ kvs)).map flattenKvs = ((chunks n kvs).map flattenKvs).map (List.map (Val.rename ρ)) := by
  rw [chunks_flattenKvs, chunks_flattenKvs, flattenKvs_rename, chunks_map]

theorem encVal_rename (hρ : Function.Injective ρ) (cfg : Cfg) (g g' : Heap) (hr : Renames ρ g g') :
    ∀ fuel st v, encVal cfg g' fuel (st.rename ρ) (v.rename ρ) = (encVal cfg g fuel st v).rename ρ := by
  intro fuel
  induction fuel with
  | zero => intro st v; cases v <;> rfl
  | succ fuel ih =>
    intro st v
    cases v with
    | atom a => rfl
    | ref a =>
      have hlk : lookup (st.rename ρ).memo (ρ a) = lookup st.memo a := lookup_rename hρ ..
      have hix : indexOf (st.rename ρ).seen (ρ a) = indexOf st.seen a := indexOf_rename hρ ..
      have hsee : (if cfg.fixed = true then ({ st.rename ρ with seen := (st.rename ρ).seen ++ [ρ a] } : EncSt) else st.rename ρ)
          = (if cfg.fixed = true then ({ st with seen := st.seen ++ [a] } : EncSt) else st).rename ρ := by
        split
        · exact seen_rename st a
        · rfl
      have hseq := encSeq_rename _ _ ih
      have hbat := encBatches_rename hρ cfg _ _ ih
      -- what is left of a host object once its arguments are written
      have done : ∀ (s : EncSt) (ops : List Op),
          (.ok ((s.rename ρ).memoize cfg (ρ a), ops) : Res) = Res.rename ρ (.ok (s.memoize cfg a, ops)) :=
        fun s ops => by rw [memoize_rename hρ]; rfl
      simp only [Val.rename]
      unfold encVal
      rw [hlk, hr a]
      cases lookup st.memo a with
      | some id => rfl
      | none =>
        cases g[a]? with
        | none => rfl
        | some o =>
          cases o with
          | tuple xs =>
            simp only [Option.map, Obj.rename, hseq, List.length_map]
            exact Res.rename_bind fun _ _ => rfl
          | set xs =>
            simp only [Option.map, Obj.rename, memoize_rename hρ, chunks_map, hbat]
            exact Res.rename_bind fun _ _ => rfl
          | dict kvs =>
            simp only [Option.map, Obj.rename, memoize_rename hρ, map_renKvs_chunks, hbat]
            exact Res.rename_bind fun _ _ => rfl
          | list xs =>
            simp only [Option.map, Obj.rename, memoize_rename hρ]
            match xs with
            | [] => rfl
            | [x] =>
              simp only [List.map, ih]
              exact Res.rename_bind fun _ _ => rfl
            | x :: y :: rest =>
              have : (x :: y :: rest).map (Val.rename ρ) = x.rename ρ :: y.rename ρ :: rest.map (Val.rename ρ) := rfl
              simp only [List.map]
              rw [← this, chunks_map, hbat]
              exact Res.rename_bind fun _ _ => rfl
          | target label => exact done st _
          | mandatory =>
            exact Res.rename_ite _ (done st _) rfl
          | other => rfl
          | builtin name recv =>
            simp only [Option.map, Obj.rename, hix, hsee, ih]
            refine Res.rename_ite _ ?_ (done st _)
            cases (if cfg.fixed = true then indexOf st.seen a else none) with
            | some idx => exact done st _
            | none => exact Res.rename_bind fun s _ => done s _
          | code name m gl bc sig =>
            have hseq := hseq [m, gl]
            simp only [List.map] at hseq
            simp only [Option.map, Obj.rename, hix, hsee, hseq]
            cases (if cfg.fixed = true then indexOf st.seen a else none) with
            | some idx => exact done st _
            | none =>
              exact Res.rename_bind fun s₁ _ =>
                Res.rename_ite _ (by rw [ih]; exact Res.rename_bind fun s _ => done s _) (done s₁ _)
          | func name d fv c =>
            have hseq := hseq [d, fv, c]
            simp only [List.map] at hseq
            simp only [Option.map, Obj.rename, hix, hsee, hseq]
            cases (if cfg.fixed = true then indexOf st.seen a else none) with
            | some idx => exact done st _
            | none => exact Res.rename_bind fun s _ => done s _

end Dawn.Env
