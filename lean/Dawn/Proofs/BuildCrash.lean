import Dawn.Proofs.BuildInv
/-!
# Crash prefixes (C03)

A build is its list of steps (`buildSteps`); a crash at the `k`-th hook point leaves the world reached by the first `k`
steps. Every such world satisfies the persisted-state invariant `DInv`: a record is only ever replaced whole, a
function target's record is marked `rerun` before its body writes anything, and a body writes only paths its label owns.
-/
namespace Dawn.Build

variable {P : Params} {S : Shape} {t : Tree} {o : Opts}

theorem prefix_append {I : World → Prop} (w : World) (a b : List Step)
    (ha : ∀ j, I (applySteps w (a.take j))) (hb : ∀ j, I (applySteps (applySteps w a) (b.take j))) :
    ∀ j, I (applySteps w ((a ++ b).take j)) := by
  intro j
  rw [List.take_append]
  by_cases h : j ≤ a.length
  · rw [Nat.sub_eq_zero_of_le h, List.take_zero, List.append_nil]; exact ha j
  · rw [List.take_of_length_le (Nat.le_of_not_le h), applySteps_append]; exact hb _

/-- same records, same files (temporaries and the index may differ) -/
def SameState (w w' : World) : Prop := w'.recs = w.recs ∧ w'.files = w.files

theorem dinv_same {w w' : World} {G : Ghost} (di : DInv P S w G) (h : SameState w w') : DInv P S w' G :=
  dinv_of_sem di (fun l => by rw [h.1]) h.2

/-- a prefix of `saveTargetInfo`: nothing visible yet, or the whole record -/
theorem save_prefix (w : World) (l : Label) (r : Rec) (j : Nat) :
    SameState w (applySteps w ((saveSteps l r).take j)) ∨
    applySteps w ((saveSteps l r).take j) = { w with recs := upd w.recs l (some r) } := by
  rcases j with _ | _ | _ | j
  · exact Or.inl ⟨rfl, rfl⟩
  · exact Or.inl ⟨rfl, rfl⟩
  · exact Or.inl ⟨rfl, rfl⟩
  · exact Or.inr (by rw [show (saveSteps l r).take (j + 3) = saveSteps l r by simp [saveSteps], applySteps_save])

theorem body_prefix (w : World) (l : Label) (ws : List (Path × Nat)) (fin : Hook) (j : Nat) :
    (applySteps w ((bodySteps l ws fin).take j)).recs = w.recs ∧
    ∀ p, (∀ gc ∈ ws, gc.1 ≠ p) → (applySteps w ((bodySteps l ws fin).take j)).files p = w.files p := by
  have eff := fun st (hst : st ∈ (bodySteps l ws fin).take j) => mem_bodySteps (List.mem_of_mem_take hst)
  refine ⟨funext fun y => applySteps_recs_other _ _ _ fun st hst r e => ?_, fun p hp => applySteps_files _ _ _ fun st hst c e => ?_⟩
  · rcases eff st hst with h | ⟨_, _, h⟩ <;> rw [h] at e <;> cases e
  · rcases eff st hst with h | ⟨gc, hgc, h⟩ <;> rw [h] at e <;> cases e
    exact hp gc hgc rfl

theorem dinv_marked {w w' : World} {G : Ghost} {l : Label} {d : Def}
    (hc : Conforms S t) (hd : t.defs l = some d) (hk : d.kind = .fn) (di : DInv P S w G) (hlr : ¬ G.retired l)
    (hrecs : w'.recs = upd w.recs l (some { loadedInfo w l d with rerun := true }))
    (hfiles : ∀ p, p ∉ d.gens → w'.files p = w.files p) : DInv P S w' G := by
  refine dinv_step (T := l) di (r' := { loadedInfo w l d with rerun := true }) hlr (fun _ h => h)
    (fun y hy => by rw [hrecs]; exact upd_other _ _ _ _ hy) (by rw [hrecs]; exact upd_same ..)
    (fun p hp => hfiles p fun hg => hp (S.owned l d.env p (hc.gens l d hd hk ▸ hg)))
    (fun _ _ _ _ => rfl) (fun _ _ _ _ => rfl) (by simp [loadedInfo_runs])
    ⟨fun h => (nomatch h), fun x st h => ?_, fun h => by rw [← hc.kind l d hd, hk] at h; cases h⟩
  -- the marked record lists what the old one listed
  have h1 : st.runs ≤ runsOf (w.recs x) ∨ G.retired x := by
    rw [loadedInfo_eq] at h
    cases hr : w.recs l with
    | none => rw [hr] at h; cases h
    | some r => rw [hr] at h; exact di.runs_le l r hr x st h
  refine h1.imp_left fun h1 => Nat.le_trans h1 ?_
  rw [hrecs]
  by_cases e : x = l
  · subst e; simp [runsOf, loadedInfo_runs]
  · simp [upd, e]

theorem visit_prefix_dinv {P : Params} {S : Shape} {t : Tree} {o : Opts} {s : BSt} {G : Ghost} {l : Label}
    (hc : Conforms S t) (hinj : SumInj P) (hsr : P.stampRuns = true) (hlc : P.listCheck = true) (hmk : P.marker = true) (hdry : o.dry = false)
    (di : DInv P S s.w G) (mi : MInv P S t s G) (ord : Order t s l) (hret : ∀ x, G.retired x → t.defs x = none) (j : Nat) :
    ∃ G', DInv P S (applySteps s.w ((visitSteps P t o s l).take j)) G' ∧ G'.retired = G.retired := by
  obtain ⟨Gv, div, _, hrv⟩ := visit_inv hc hinj hsr hlc hdry di mi ord hret
  rw [(visit_steps P t o s l).2] at div
  obtain ⟨ss, s', hss, -, hv⟩ := visit_ends P t o s l
  rw [hss] at div ⊢
  cases hv with
  | run d hd =>
    have hlr : ¬ G.retired l := fun h => by rw [hret l h] at hd; cases hd
    obtain ⟨fin, hsteps⟩ := execSteps_steps P t o s.w l d (loadedInfo s.w l d) (depData t s l d)
    rw [hsteps] at div ⊢
    revert j
    generalize (execSteps P t o s.w l d (loadedInfo s.w l d) (depData t s l d)).2.1 = r at div ⊢
    -- between the marker and the last rename: the records as the marker left them, and only files of `l` written
    have mid : ∀ w', w'.recs = (applySteps s.w (markSteps P l d (loadedInfo s.w l d))).recs →
        (∀ p, (∀ gc ∈ execWrites P t o s.w l d, gc.1 ≠ p) → w'.files p = s.w.files p) →
        ∃ G', DInv P S w' G' ∧ G'.retired = G.retired := by
      intro w' hrecs hfiles
      unfold markSteps at hrecs
      cases hk : d.kind with
      | src =>
        have hws : execWrites P t o s.w l d = [] := by simp [execWrites, hk]
        rw [if_neg (by simp [hk])] at hrecs
        exact ⟨G, dinv_same di ⟨hrecs, funext fun p => hfiles p (by simp [hws])⟩, rfl⟩
      | fn =>
        rw [if_pos ⟨hk, hmk⟩, applySteps_save] at hrecs
        exact ⟨G, dinv_marked hc hd hk di hlr hrecs fun p hp => hfiles p fun gc hgc e => hp (e ▸ (execWrites_gens hgc).2), rfl⟩
    have marked : ∀ p, (applySteps s.w (markSteps P l d (loadedInfo s.w l d))).files p = s.w.files p := by
      intro p
      unfold markSteps
      split
      · rw [applySteps_save]
      · rfl
    refine prefix_append (I := fun w' => ∃ G', DInv P S w' G' ∧ G'.retired = G.retired) _ _ _ (fun j => ?_)
      (prefix_append (I := fun w' => ∃ G', DInv P S w' G' ∧ G'.retired = G.retired) _ _ _ (fun j => ?_) fun j => ?_)
    · unfold markSteps
      split
      · rcases save_prefix s.w l { loadedInfo s.w l d with rerun := true } j with h | h
        · exact ⟨G, dinv_same di h, rfl⟩
        · refine mid _ ?_ fun _ _ => by rw [h]
          rw [h, markSteps, if_pos ‹_›, applySteps_save]
      · rw [List.take_nil]; exact ⟨G, di, rfl⟩
    · obtain ⟨h1, h2⟩ := body_prefix (applySteps s.w (markSteps P l d (loadedInfo s.w l d))) l (execWrites P t o s.w l d) fin j
      exact mid _ h1 fun p hp => (h2 p hp).trans (marked p)
    · rcases save_prefix (applySteps (applySteps s.w (markSteps P l d (loadedInfo s.w l d))) (bodySteps l (execWrites P t o s.w l d) fin)) l r j with h | h
      · obtain ⟨h1, h2⟩ := body_prefix (applySteps s.w (markSteps P l d (loadedInfo s.w l d))) l (execWrites P t o s.w l d) fin
          (bodySteps l (execWrites P t o s.w l d) fin).length
        rw [List.take_length] at h1 h2
        exact mid _ (h.1.trans h1) fun p hp => (congrFun h.2 p).trans ((h2 p hp).trans (marked p))
      · rw [h, ← applySteps_save, ← applySteps_append, ← applySteps_append]
        exact ⟨Gv, div, hrv⟩
  | _ => rw [List.take_nil]; exact ⟨G, di, rfl⟩

theorem build_prefix_dinv
    (hc : Conforms S t) (hinj : SumInj P) (hsr : P.stampRuns = true) (hlc : P.listCheck = true) (hmk : P.marker = true) (hdry : o.dry = false) :
    ∀ (ord : List Label) (s : BSt) (G : Ghost), DInv P S s.w G → MInv P S t s G → Ordered P t o s ord →
      (∀ x, G.retired x → t.defs x = none) →
      ∀ k, ∃ G', DInv P S (applySteps s.w ((buildSteps P t o s ord).take k)) G' ∧ G'.retired = G.retired := by
  intro ord
  induction ord with
  | nil => intro s G di _ _ _ k; rw [buildSteps, List.take_nil]; exact ⟨G, di, rfl⟩
  | cons l rest ih =>
    intro s G di mi ho hret
    refine prefix_append (I := fun w' => ∃ G', DInv P S w' G' ∧ G'.retired = G.retired) _ _ _
      (visit_prefix_dinv hc hinj hsr hlc hmk hdry di mi ho.1 hret) fun i => ?_
    rw [← (visit_steps P t o s l).2]
    obtain ⟨G1, di1, mi1, hr1⟩ := visit_inv hc hinj hsr hlc hdry di mi ho.1 hret
    obtain ⟨G2, di2, hr2⟩ := ih _ G1 di1 mi1 ho.2 (by rw [hr1]; exact hret) i
    exact ⟨G2, di2, by rw [hr2, hr1]⟩

/-- C03: whatever hook point a build dies at, the persisted state satisfies the invariant -/
theorem crash_dinv {P : Params} {S : Shape} {t : Tree} {o : Opts}
    (hc : Conforms S t) (hinj : SumInj P) (hsr : P.stampRuns = true) (hlc : P.listCheck = true) (hmk : P.marker = true) (hdry : o.dry = false)
    (ord : List Label) (w : World) (G : Ghost) (di : DInv P S w G) (ho : Ordered P t o (BSt.init (load t w)) ord)
    (hret : ∀ x, G.retired x → t.defs x = none) (k : Nat) :
    ∃ G', DInv P S (crashBuild P t o ord k w) G' ∧ G'.retired = G.retired := by
  rw [crashBuild_eq]
  exact build_prefix_dinv hc hinj hsr hlc hmk hdry ord (BSt.init (load t w)) G (dinv_load t di) (minv_init t _ G) ho hret k

/-- the load-time refresh and index rewrite, cut anywhere, keep the invariant too -/
theorem crashLoad_dinv {P : Params} {S : Shape} (t : Tree) (w : World) (G : Ghost) (di : DInv P S w G) (k : Nat) :
    DInv P S (crashLoad t k w) G := by
  obtain ⟨h1, h2⟩ := applySteps_refresh w ((loadSteps t w).take k)
    (fun st hst => loadSteps_refresh t w st (List.mem_of_mem_take hst)) w fun _ => rfl
  exact dinv_of_sem di h1 h2

end Dawn.Build
