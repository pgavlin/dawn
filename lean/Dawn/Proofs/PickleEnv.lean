import Dawn.Proofs.PickleDec
/-! dawn's `envUnpickler` (model `envHost`) is a well-behaved host: it never panics with a non-error value, and what it
returns — an argument, the argument tuple, a string, a new dict, the updated function-code dict — only extends the
heap and keeps every reference in range. -/
namespace Dawn.Pickle

theorem envPairs_closed {h : Heap} (hc : HeapClosed h) : ∀ (ps : List Val) (acc kvs : List (Val × Val)),
    (∀ p ∈ acc, p.1.closed h.length ∧ p.2.closed h.length) → envPairs h ps acc = some kvs →
    ∀ p ∈ kvs, p.1.closed h.length ∧ p.2.closed h.length := by
  intro ps
  induction ps with
  | nil => intro acc kvs ha he; simp only [envPairs, Option.some.injEq] at he; subst he; exact ha
  | cons pv rest ih =>
    intro acc kvs ha he
    cases pv with
    | ref p =>
      simp only [envPairs] at he
      split at he
      · rename_i k v tl hp
        have hcl := hc.get hp
        refine ih _ kvs ?_ he
        exact dictInsert_all h (Val.closed h.length) acc _ v ha trivial (hcl v (by simp))
      · cases he
    | atom _ => simp [envPairs] at he
    | mark => simp [envPairs] at he
    | global _ _ _ => simp [envPairs] at he

theorem envMakeDict_ok {h h' : Heap} {al d : Val} (hc : HeapClosed h) (hm : envMakeDict h al = some (h', d)) :
    h.length ≤ h'.length ∧ HeapClosed h' ∧ d.closed h'.length := by
  have same : some (h, Val.atom Atom.none) = some (h', d) → h.length ≤ h'.length ∧ HeapClosed h' ∧ d.closed h'.length := by
    rintro ⟨⟩; exact ⟨Nat.le_refl _, hc, trivial⟩
  unfold envMakeDict at hm
  split at hm
  · split at hm
    · split at hm
      · rename_i kvs hk
        cases hm
        exact ⟨by simp, hc.append _ (envPairs_closed hc _ [] kvs (by simp) hk), by simp [Val.closed]⟩
      · cases hm
    · exact same hm
  · exact same hm

def VerdictOK (h : Heap) (r : HostVerdict) : Prop :=
  r ≠ .otherPanic ∧ ∀ h' v, r = .result h' v → hostResultOK h h' v = true

theorem VerdictOK.error (h : Heap) : VerdictOK h .error := ⟨nofun, nofun⟩
theorem VerdictOK.rt (h : Heap) : VerdictOK h .runtimePanic := ⟨nofun, nofun⟩

theorem VerdictOK.result {h h' : Heap} {v : Val} (hl : h.length ≤ h'.length) (hv : v.closed h'.length) (hc : HeapClosed h') :
    VerdictOK h (.result h' v) := by
  refine ⟨nofun, fun _ _ e => ?_⟩
  cases e
  exact (hostResultOK_iff _ _ _).mpr ⟨hl, hv, hc⟩

theorem VerdictOK.ite {h : Heap} {c : Prop} [Decidable c] {a b : HostVerdict} (ha : VerdictOK h a) (hb : VerdictOK h b) :
    VerdictOK h (if c then a else b) := by
  split <;> assumption

theorem envFunctionCode_ok {h : Heap} (hc : HeapClosed h) (m globals bytecode : Val) (params : List (Val × Val))
    (hm : m.closed h.length) (hb : bytecode.closed h.length)
    (hp : ∀ p ∈ params, p.1.closed h.length ∧ p.2.closed h.length) :
    VerdictOK h (envFunctionCode h m globals bytecode params) := by
  unfold envFunctionCode
  split
  · split
    · rename_i names constants predeclared universals functions tl hma
      have hcl := hc.get hma
      simp only [Obj.closed, List.forall_mem_cons] at hcl
      split
      · exact .rt h
      · rename_i h1 dp e1
        obtain ⟨l1, c1, d1⟩ := envMakeDict_ok hc e1
        split
        · exact .rt h
        · rename_i h2 du e2
          obtain ⟨l2, c2, d2⟩ := envMakeDict_ok c1 e2
          split
          · exact .rt h
          · rename_i h3 dg e3
            obtain ⟨l3, c3, d3⟩ := envMakeDict_ok c2 e3
            have up : ∀ {x : Val}, x.closed h.length → x.closed h3.length := Val.closed_mono (by omega)
            refine .result (by simp; omega) (by simp [Val.closed]) (c3.append _ ?_)
            simp only [Obj.closed, List.cons_append, List.nil_append, List.forall_mem_cons]
            exact ⟨⟨trivial, up hcl.1⟩, ⟨trivial, up hcl.2.1⟩, ⟨trivial, Val.closed_mono (by omega) d1⟩,
              ⟨trivial, Val.closed_mono l3 d2⟩, ⟨trivial, up hcl.2.2.2.2.1⟩, ⟨trivial, d3⟩, ⟨trivial, up hb⟩,
              fun p hp' => ⟨up (hp p hp').1, up (hp p hp').2⟩⟩
    · exact .rt h
  · exact .rt h

theorem envHost_ok (h : Heap) (a : Nat) (m n : Bytes) (xs : List Val) (hc : HeapClosed h) (hg : h[a]? = some (.tuple xs)) :
    VerdictOK h (envHost h a m n xs) := by
  have hx : ∀ x ∈ xs, x.closed h.length := hc.get hg
  have ha : (Val.ref a).closed h.length := lt_of_getElem? hg
  have same : ∀ {v : Val}, v.closed h.length → VerdictOK h (.result h v) := fun hv => .result (Nat.le_refl _) hv hc
  unfold envHost
  -- one `if` per constructor name; below them the argument list is taken apart so that the `match` computes
  refine .ite (.error h) (.ite ?_ (.ite ?_ (.ite ?_ (.ite ?_ (.ite ?_ (.ite ?_ (.error h)))))))
  · rcases xs with _ | ⟨x, _ | _⟩
    · exact .error h
    · exact same (hx x (by simp))
    · exact .error h
  · exact .ite (same ha) (.error h)
  · exact .ite (same ha) (.error h)
  · exact .ite (same trivial) (.error h)
  · rcases xs with _ | ⟨mo, _ | ⟨gl, _ | ⟨bc, _ | ⟨pa, _ | _⟩⟩⟩⟩ <;> try exact .error h
    all_goals simp only [List.forall_mem_cons] at hx
    · exact envFunctionCode_ok hc mo gl bc [] hx.1 hx.2.2.1 (by simp)
    · exact envFunctionCode_ok hc mo gl bc _ hx.1 hx.2.2.1 (by simpa using ⟨trivial, hx.2.2.2.1⟩)
  · rcases xs with _ | ⟨defaults, _ | ⟨freeVars, _ | ⟨fcv, _ | _⟩⟩⟩ <;> try exact .error h
    -- left: exactly three arguments, and more than three (there the match inspects the third before the length)
    · cases fcv <;> try exact .rt h
      rename_i fc
      show VerdictOK h (match h[fc]? with | some (.dict kvs) => _ | _ => _)
      split
      · rename_i kvs hfc
        have hkvs := hc.get hfc
        split
        · exact .rt h
        · rename_i h1 d1 e1
          obtain ⟨l1, c1, dc1⟩ := envMakeDict_ok hc e1
          split
          · exact .rt h
          · rename_i h2 d2 e2
            obtain ⟨l2, c2, dc2⟩ := envMakeDict_ok c1 e2
            have hfc2 : fc < h2.length := by have := lt_of_getElem? hfc; omega
            have up : ∀ p ∈ kvs, p.1.closed h2.length ∧ p.2.closed h2.length :=
              fun p hp => ⟨Val.closed_mono (by omega) (hkvs p hp).1, Val.closed_mono (by omega) (hkvs p hp).2⟩
            exact .result (by simp; omega) (by simpa [Val.closed] using hfc2) (c2.set fc
              (dictInsert_all h2 (Val.closed h2.length) _ _ _
                (dictInsert_all h2 (Val.closed h2.length) kvs _ _ up trivial (Val.closed_mono l2 dc1)) trivial dc2))
      · exact .rt h
    · cases fcv <;> exact .error h

end Dawn.Pickle
