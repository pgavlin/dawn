import Dawn.Proofs.RunnerStep
/-!
# Runner: the structural invariant

Every shared or ghost variable of a label is a function of that label's program counter; the registry has
no duplicates; slots are conserved. From these follow C04 "at most once", C09 "conserved" and "limit".
The last section says what a step does to the threads that do not take it (`Frame`).
-/
namespace Dawn.Runner

def PC.published : PC → Bool
  | .walk _ | .waitDeps _ _ | .unpubCyc => true
  | _ => false

def PC.final : PC → Bool
  | .exit2 | .wgDone | .done => true
  | _ => false

def PC.preLoad : PC → Bool
  | .enter1 | .load => true
  | _ => false

def PC.preEval : PC → Bool
  | .enter1 | .load | .evalStart => true
  | _ => false

/-- program counters that are only reached after `LoadTarget` succeeded -/
def PC.inEval : PC → Bool
  | .evalStart | .exit1 | .startDeps _ | .walk _ | .waitDeps _ _ | .unpubCyc | .enter2 _ | .evalRest _ => true
  | _ => false

def PC.afterRest : PC → Bool
  | .finish _ _ | .exit2 | .wgDone | .done => true
  | _ => false

theorem PC.afterRest_of_final {p : PC} (h : p.final = true) : p.afterRest = true := by
  cases p <;> first | rfl | cases h

theorem PC.inEval_of_published {p : PC} (h : p.published = true) : p.inEval = true := by
  cases p <;> first | rfl | cases h

theorem PC.not_published_of_final {p : PC} (h : p.final = true) : p.published = false := by
  cases p <;> first | rfl | cases h

theorem PC.not_atGate_of_executing {p : PC} (h : p.executing = true) : p.atGate = false := by
  cases p <;> first | rfl | cases h

theorem localOutcome_final (res : Results) (b : Bool) : (localOutcome res b).1.final = true := by
  unfold localOutcome
  cases res with
  | none => rfl
  | some hs =>
    simp only
    split
    · split <;> rfl
    · rfl

def expHolds : Option PC → Bool
  | some p => p.executing
  | none => false

def expWaiting (P : Params) (x : Label) : Option PC → Option (List Label)
  | some p => if p.published then some (P.deps x) else none
  | none => none

def expLoads : Option PC → Nat
  | some p => if p.preLoad then 0 else 1
  | none => 0

def statusOk : Option PC → Status → Prop
  | none, st => st = .idle
  | some p, st => if p.final then st.final = true else st = .running

/-- the goroutine of `x` has not yet called `running.Done()` -/
def alive (s : State) (x : Label) : Bool := decide (s.pc x ≠ some .done)

structure Inv (P : Params) (s : State) : Prop where
  nodup    : s.registry.Nodup
  reg      : ∀ x, x ∈ s.registry ↔ s.pc x ≠ none
  status   : ∀ x, statusOk (s.pc x) (s.status x)
  holds    : ∀ x, s.holds x = expHolds (s.pc x)
  waiting  : ∀ x, s.waiting x = expWaiting P x (s.pc x)
  loads    : ∀ x, s.loads x = expLoads (s.pc x)
  evals    : ∀ x, s.evals x ≤ 1
  evals0   : ∀ x, (∀ p, s.pc x = some p → p.preEval = true) → s.evals x = 0
  known    : ∀ x p, s.pc x = some p → p.inEval = true → P.known x = true
  cyc      : ∀ x, s.cyc x = true → ∃ p, s.pc x = some p ∧ p.afterRest = true
  fin      : ∀ x st e, s.pc x = some (.finish st e) → st.final = true
  slots    : s.capacity + (holders s).length = P.cap
  mainS    : s.main = .start → ∀ x, s.pc x = none
  mainW    : s.main ≠ .start → s.pc P.root ≠ none
  mainD    : ∀ e, s.main = .waitAll e ∨ s.main = .done e → e = s.err P.root ∧ (s.status P.root).final = true
  live     : s.live = (s.registry.filter (alive s)).length
  mainL    : ∀ e, s.main = .done e → s.live = 0

theorem length_filter_upd (reg : List Label) (h : Label → Bool) (l : Label) (b : Bool)
    (hn : reg.Nodup) (hl : l ∈ reg) :
    (reg.filter (upd h l b)).length + (if h l then 1 else 0) = (reg.filter h).length + (if b then 1 else 0) := by
  induction reg with
  | nil => cases hl
  | cons a t ih =>
    obtain ⟨hat, hnt⟩ := List.nodup_cons.mp hn
    by_cases e : a = l
    · subst e
      have : t.filter (upd h a b) = t.filter h :=
        List.filter_congr fun x hx => upd_other _ _ _ _ fun c => hat (c ▸ hx)
      rw [List.filter_cons, List.filter_cons, upd_same, this]
      cases b <;> cases h a <;> rfl
    · have ih' := ih hnt ((List.mem_cons.mp hl).resolve_left (Ne.symm e))
      rw [List.filter_cons, List.filter_cons, upd_other _ _ _ _ e]
      cases h a
      · exact ih'
      · simp only [↓reduceIte, List.length_cons]; omega

theorem Inv.mem_reg {P : Params} {s : State} (inv : Inv P s) {l : Label} {p : PC} (h : s.pc l = some p) :
    l ∈ s.registry := (inv.reg l).mpr (by rw [h]; simp)

theorem Inv.holds_of {P : Params} {s : State} (inv : Inv P s) {l : Label} {p : PC} (h : s.pc l = some p) :
    s.holds l = p.executing := by have := inv.holds l; rwa [h] at this

theorem Inv.waiting_of {P : Params} {s : State} (inv : Inv P s) {l : Label} {p : PC} (h : s.pc l = some p) :
    s.waiting l = if p.published then some (P.deps l) else none := by have := inv.waiting l; rwa [h] at this

theorem Inv.of_waiting {P : Params} {s : State} (inv : Inv P s) {d : Label} {ds : List Label}
    (hw : s.waiting d = some ds) : ds = P.deps d ∧ ∃ q, s.pc d = some q ∧ q.published = true := by
  have := inv.waiting d
  rw [hw] at this
  cases hq : s.pc d with
  | none => rw [hq] at this; cases this
  | some q =>
    rw [hq] at this
    have : some ds = if q.published then some (P.deps d) else none := this
    cases hpub : q.published with
    | false => rw [hpub] at this; cases this
    | true => rw [hpub] at this; injection this with h; exact ⟨h, q, rfl, hpub⟩

theorem Inv.running_of {P : Params} {s : State} (inv : Inv P s) {l : Label} {p : PC} (h : s.pc l = some p)
    (hf : p.final = false) : s.status l = .running := by
  have := inv.status l; rw [h] at this; simpa [statusOk, hf] using this

theorem Inv.final_of {P : Params} {s : State} (inv : Inv P s) {l : Label} {p : PC} (h : s.pc l = some p)
    (hf : p.final = true) : (s.status l).final = true := by
  have := inv.status l; rw [h] at this; simpa [statusOk, hf] using this

theorem Inv.idle_of {P : Params} {s : State} (inv : Inv P s) {l : Label} (h : s.pc l = none) :
    s.status l = .idle := by have := inv.status l; rwa [h] at this

theorem Inv.pc_of_not_idle {P : Params} {s : State} (inv : Inv P s) {l : Label} (h : s.status l ≠ .idle) :
    ∃ p, s.pc l = some p := by
  cases hp : s.pc l with
  | none => exact absurd (inv.idle_of hp) h
  | some p => exact ⟨p, rfl⟩

theorem Inv.pc_none_of_idle {P : Params} {s : State} (inv : Inv P s) {d : Label} (hidle : s.status d = .idle) :
    s.pc d = none := by
  cases h : s.pc d with
  | none => rfl
  | some q =>
    cases hf : q.final with
    | false => have := inv.running_of h hf; rw [hidle] at this; cases this
    | true => have := inv.final_of h hf; rw [hidle] at this; cases this

theorem Inv.pc_of_final {P : Params} {s : State} (inv : Inv P s) {l : Label} (hf : (s.status l).final = true) :
    ∃ p, s.pc l = some p ∧ p.final = true := by
  obtain ⟨p, hp⟩ := inv.pc_of_not_idle (l := l) (by intro c; rw [c] at hf; cases hf)
  cases h : p.final with
  | true => exact ⟨p, hp, h⟩
  | false => rw [inv.running_of hp h] at hf; cases hf

/-- the cycle flag is only raised by the rest of `Evaluate` -/
theorem Inv.afterRest_of_cyc {P : Params} {s : State} (inv : Inv P s) {l : Label} {p : PC} (h : s.pc l = some p)
    (hc : s.cyc l = true) : p.afterRest = true := by
  obtain ⟨q, hq, hqa⟩ := inv.cyc l hc
  rw [h] at hq; cases hq; exact hqa

theorem Inv.live_pos {P : Params} {s : State} (inv : Inv P s) {l : Label} {p : PC} (h : s.pc l = some p)
    (hnd : p ≠ .done) : 0 < s.live := by
  rw [inv.live]
  apply List.length_pos_of_mem (a := l)
  simp only [List.mem_filter, alive, decide_eq_true_eq]
  exact ⟨inv.mem_reg h, by rw [h]; simpa using hnd⟩

theorem Inv.slots_enter {P : Params} {s : State} (inv : Inv P s) {l : Label} {p : PC} (hp : s.pc l = some p)
    (hx : p.executing = false) (hc : s.capacity ≠ 0) :
    s.capacity - 1 + (s.registry.filter (upd s.holds l true)).length = P.cap := by
  have h1 := length_filter_upd s.registry s.holds l true inv.nodup (inv.mem_reg hp)
  rw [inv.holds_of hp, hx] at h1
  have h2 : s.capacity + (s.registry.filter s.holds).length = P.cap := inv.slots
  simp only [Bool.false_eq_true, ↓reduceIte] at h1
  omega

theorem Inv.slots_exit {P : Params} {s : State} (inv : Inv P s) {l : Label} {p : PC} (hp : s.pc l = some p)
    (hx : p.executing = true) :
    s.capacity + 1 + (s.registry.filter (upd s.holds l false)).length = P.cap := by
  have h1 := length_filter_upd s.registry s.holds l false inv.nodup (inv.mem_reg hp)
  rw [inv.holds_of hp, hx] at h1
  have h2 : s.capacity + (s.registry.filter s.holds).length = P.cap := inv.slots
  simp only [Bool.false_eq_true, ↓reduceIte] at h1
  omega

/-- the thread that calls `getTarget(d).start(r)` is not the one it starts -/
theorem Inv.pc_startTarget {P : Params} {s : State} (inv : Inv P s) {l : Label} {p : PC} (hp : s.pc l = some p)
    (d : Label) : (startTarget s d).pc l = some p := by
  rcases startTarget_cases s d with ⟨_, e⟩ | ⟨hi, e⟩ <;> rw [e]
  · exact hp
  · have : l ≠ d := by intro c; rw [c, inv.pc_none_of_idle hi] at hp; cases hp
    exact (upd_other _ _ _ _ this).trans hp

/-- A move of thread `l` from `p` to `p'` that writes only `l`'s own variables and the counters. For each variable: the
    other threads' copies stay, and `l`'s copy matches `p'` provided it matched `p`. The default of each hypothesis is
    "not written, and `p'` expects what `p` expected". -/
theorem inv_local {P : Params} {s s' : State} {l : Label} {p : PC} (inv : Inv P s) (hp : s.pc l = some p)
    (hpnd : p ≠ .done) (p' : PC)
    (hpc : s'.pc = upd s.pc l (some p') := by rfl)
    (hreg : s'.registry = s.registry := by rfl)
    (hmain : s'.main = s.main := by rfl)
    (hstatus : (∀ x, x ≠ l → s'.status x = s.status x) ∧
      (statusOk (some p) (s.status l) → statusOk (some p') (s'.status l)) := by exact ⟨fun _ _ => rfl, id⟩)
    (hholds : (∀ x, x ≠ l → s'.holds x = s.holds x) ∧
      (s.holds l = expHolds (some p) → s'.holds l = expHolds (some p')) := by exact ⟨fun _ _ => rfl, id⟩)
    (hwaiting : (∀ x, x ≠ l → s'.waiting x = s.waiting x) ∧
      (s.waiting l = expWaiting P l (some p) → s'.waiting l = expWaiting P l (some p')) := by
        exact ⟨fun _ _ => rfl, id⟩)
    (hloads : (∀ x, x ≠ l → s'.loads x = s.loads x) ∧
      (s.loads l = expLoads (some p) → s'.loads l = expLoads (some p')) := by exact ⟨fun _ _ => rfl, id⟩)
    (hevals : (∀ x, x ≠ l → s'.evals x = s.evals x) ∧
      (s.evals l ≤ 1 ∧ (p.preEval = true → s.evals l = 0) →
        s'.evals l ≤ 1 ∧ (p'.preEval = true → s'.evals l = 0)) := by exact ⟨fun _ _ => rfl, id⟩)
    (hcyc : (∀ x, x ≠ l → s'.cyc x = s.cyc x) ∧
      ((s.cyc l = true → p.afterRest = true) → s'.cyc l = true → p'.afterRest = true) := by
        exact ⟨fun _ _ => rfl, id⟩)
    (hknown : (p.inEval = true → P.known l = true) → p'.inEval = true → P.known l = true := by exact id)
    (hfin : (match p' with | .finish st _ => st.final = true | _ => True) := by exact trivial)
    (hslots : s.capacity + (holders s).length = P.cap → s'.capacity + (holders s').length = P.cap := by exact id)
    (hroot : (s.status P.root).final = true → s'.err P.root = s.err P.root ∧ s'.status P.root = s.status P.root := by
        exact fun _ => ⟨rfl, rfl⟩)
    (hlive : s'.live + (if p' = .done then 1 else 0) = s.live := by rfl) :
    Inv P s' := by
  have hlive' : s'.live = (s'.registry.filter (alive s')).length := by
    have hal : alive s' = upd (alive s) l (decide (p' ≠ .done)) := by
      funext x
      unfold alive; rw [hpc]
      by_cases e : x = l
      · subst e; simp
      · rw [upd_other _ _ _ _ e, upd_other _ _ _ _ e]
    have := length_filter_upd s.registry (alive s) l (decide (p' ≠ .done)) inv.nodup (inv.mem_reg hp)
    have hl : alive s l = true := by simpa [alive, hp] using hpnd
    rw [hreg, hal]
    rw [hl, ← inv.live] at this
    by_cases h1 : p' = .done <;>
      simp only [ne_eq, h1, not_false_eq_true, not_true_eq_false, decide_true, decide_false, ↓reduceIte,
        Bool.false_eq_true] at this hlive ⊢ <;> omega
  have hev := hevals.2 ⟨inv.evals l, fun h => inv.evals0 l fun q hq => by rw [hp] at hq; cases hq; exact h⟩
  exact {
    nodup := hreg ▸ inv.nodup
    reg := hreg ▸ hpc ▸ upd_pred (Q := fun x q => x ∈ s.registry ↔ q ≠ none) inv.reg (by simp [inv.mem_reg hp])
    status := hpc ▸ upd_rel (R := fun _ q st => statusOk q st) inv.status hstatus.1 (hstatus.2 (hp ▸ inv.status l))
    holds := hpc ▸ upd_rel (R := fun _ q b => b = expHolds q) inv.holds hholds.1 (hholds.2 (hp ▸ inv.holds l))
    waiting := hpc ▸ upd_rel (R := fun x q w => w = expWaiting P x q) inv.waiting hwaiting.1
      (hwaiting.2 (hp ▸ inv.waiting l))
    loads := hpc ▸ upd_rel (R := fun _ q n => n = expLoads q) inv.loads hloads.1 (hloads.2 (hp ▸ inv.loads l))
    evals := fun x => by
      by_cases e : x = l
      · exact e ▸ hev.1
      · rw [hevals.1 x e]; exact inv.evals x
    evals0 := hpc ▸ upd_rel (R := fun _ q n => (∀ p, q = some p → p.preEval = true) → n = 0) inv.evals0 hevals.1
      fun h => hev.2 (h p' rfl)
    known := hpc ▸ upd_pred (Q := fun x (q : Option PC) => ∀ p, q = some p → p.inEval = true → P.known x = true)
      inv.known fun q hq => by cases hq; exact hknown (inv.known l p hp)
    cyc := hpc ▸ upd_rel (R := fun _ q c => c = true → ∃ p, q = some p ∧ p.afterRest = true) inv.cyc hcyc.1
      fun hc => ⟨p', rfl, hcyc.2 (inv.afterRest_of_cyc hp) hc⟩
    fin := hpc ▸ upd_pred (Q := fun _ (q : Option PC) => ∀ st e, q = some (.finish st e) → st.final = true) inv.fin
      fun st e hq => by cases hq; exact hfin
    slots := hslots inv.slots
    mainS := fun hm => by rw [hmain] at hm; have := inv.mainS hm l; rw [hp] at this; cases this
    mainW := fun hm => by
      rw [hpc]
      by_cases e : P.root = l
      · rw [e, upd_same]; simp
      · rw [upd_other _ _ _ _ e]; exact inv.mainW (hmain ▸ hm)
    mainD := fun e he => by
      obtain ⟨h1, h2⟩ := inv.mainD e (hmain ▸ he)
      obtain ⟨h3, h4⟩ := hroot h2
      rw [h3, h4]; exact ⟨h1, h2⟩
    live := hlive'
    mainL := fun e he => by have := inv.mainL e (hmain ▸ he); have := inv.live_pos hp hpnd; omega }

theorem inv_setMain {P : Params} {s : State} (inv : Inv P s) (m : MainPC) (hS : m ≠ .start) (hW : s.pc P.root ≠ none)
    (hD : ∀ e, m = .waitAll e ∨ m = .done e → e = s.err P.root ∧ (s.status P.root).final = true)
    (hL : ∀ e, m = .done e → s.live = 0) : Inv P { s with main := m } :=
  { inv with mainS := fun h => absurd h hS, mainW := fun _ => hW, mainD := hD, mainL := hL }

/-- `getTarget(d).start(r)` keeps the invariant: called by a target thread (`m = s.main`) or by `Run`
    (`m = .wait`, `d = root`) -/
theorem inv_startTarget {P : Params} {s : State} (inv : Inv P s) (d : Label) (m : MainPC)
    (hm : m ≠ .start) (hcase : s.main = m ∨ (s.main = .start ∧ m = .wait ∧ d = P.root))
    (hmnd : ∀ e, m ≠ .done e) :
    Inv P { startTarget s d with main := m } := by
  have hD : ∀ e, m = .waitAll e ∨ m = .done e → e = s.err P.root ∧ (s.status P.root).final = true := by
    intro e he
    rcases hcase with h | ⟨_, h, _⟩
    · exact inv.mainD e (h ▸ he)
    · rw [h] at he; rcases he with he | he <;> cases he
  rcases startTarget_cases s d with ⟨hn, e⟩ | ⟨hidle, e⟩ <;> rw [e]
  · refine inv_setMain inv m hm ?_ hD (fun e he => absurd he (hmnd e))
    rcases hcase with h | ⟨_, _, hd⟩
    · exact inv.mainW (h ▸ hm)
    · exact fun hq => hn (hd ▸ inv.idle_of hq)
  · have hpcd : s.pc d = none := inv.pc_none_of_idle hidle
    have hnotin : d ∉ s.registry := fun c => (inv.reg d).mp c hpcd
    have hother : ∀ x ∈ s.registry, x ≠ d := fun x hx c => hnotin (c ▸ hx)
    have hhd : s.holds d = false := by have := inv.holds d; rwa [hpcd] at this
    exact {
      nodup := List.nodup_cons.mpr ⟨hnotin, inv.nodup⟩
      reg := fun x => by
        by_cases e : x = d
        · subst e; simp
        · simp [e]; exact inv.reg x
      status := upd_rel₂ (R := fun _ q st => statusOk q st) inv.status rfl
      holds := upd_rel (R := fun _ q b => b = expHolds q) inv.holds (fun _ _ => rfl) hhd
      waiting := upd_rel (R := fun x q w => w = expWaiting P x q) inv.waiting (fun _ _ => rfl)
        (by have := inv.waiting d; rwa [hpcd] at this)
      loads := upd_rel (R := fun _ q n => n = expLoads q) inv.loads (fun _ _ => rfl)
        (by have := inv.loads d; rwa [hpcd] at this)
      evals := inv.evals
      evals0 := upd_rel (R := fun _ (q : Option PC) n => (∀ p, q = some p → p.preEval = true) → n = 0) inv.evals0
        (fun _ _ => rfl) (fun _ => inv.evals0 d fun q hq => by rw [hpcd] at hq; cases hq)
      known := upd_pred (Q := fun x (q : Option PC) => ∀ p, q = some p → p.inEval = true → P.known x = true)
        inv.known (fun q hq hin => by cases hq; cases hin)
      cyc := upd_rel (R := fun _ (q : Option PC) c => c = true → ∃ p, q = some p ∧ p.afterRest = true) inv.cyc
        (fun _ _ => rfl) (fun hc => by obtain ⟨q, hq, _⟩ := inv.cyc d hc; rw [hpcd] at hq; cases hq)
      fin := upd_pred (Q := fun _ (q : Option PC) => ∀ st e, q = some (.finish st e) → st.final = true)
        inv.fin (fun st e hq => by cases hq)
      slots := by
        show s.capacity + ((d :: s.registry).filter fun l => s.holds l).length = P.cap
        rw [List.filter_cons_of_neg (by simp [hhd])]; exact inv.slots
      mainS := fun h => absurd h hm
      mainW := fun _ => by
        show upd s.pc d (some .enter1) P.root ≠ none
        by_cases e : P.root = d
        · rw [e, upd_same]; simp
        · rw [upd_other _ _ _ _ e]
          rcases hcase with h | ⟨_, _, h⟩
          · exact inv.mainW (h ▸ hm)
          · exact absurd h.symm e
      mainD := fun e he => by
        obtain ⟨h1, h2⟩ := hD e he
        have : P.root ≠ d := by intro c; rw [c, hidle] at h2; cases h2
        exact ⟨h1, by show (upd s.status d .running P.root).final = true; rw [upd_other _ _ _ _ this]; exact h2⟩
      live := by
        show s.live + 1 = ((d :: s.registry).filter fun x => decide (upd s.pc d (some .enter1) x ≠ some .done)).length
        rw [List.filter_cons_of_pos (by simp), List.length_cons, inv.live]
        congr 2
        exact List.filter_congr fun x hx => by rw [alive, upd_other _ _ _ _ (hother x hx)]
      mainL := fun e he => absurd he (hmnd e) }

theorem Inv.start {P : Params} {s : State} (inv : Inv P s) {l : Label} {p : PC} (hp : s.pc l = some p)
    (hpnd : p ≠ .done) (d : Label) : Inv P (startTarget s d) := by
  have := inv_startTarget inv d s.main (fun hm => by have := inv.mainS hm l; rw [hp] at this; cases this)
    (Or.inl rfl) (fun e he => by have := inv.mainL e he; have := inv.live_pos hp hpnd; omega)
  rw [← startTarget_main s d] at this
  exact this

theorem inv_mstep {P : Params} {s s' : State} (inv : Inv P s) (h : MStep P s s') : Inv P s' := by
  cases h with
  | start hm => exact inv_startTarget inv P.root .wait nofun (Or.inr ⟨hm, rfl, rfl⟩) nofun
  | wait hm hr =>
    have hroot : s.pc P.root ≠ none := inv.mainW (by rw [hm]; nofun)
    refine inv_setMain inv _ nofun hroot (fun e he => ?_) nofun
    obtain rfl : s.err P.root = e := by rcases he with he | he <;> cases he; rfl
    refine ⟨rfl, ?_⟩
    cases hq : s.pc P.root with
    | none => exact absurd hq hroot
    | some q =>
      cases hf : q.final with
      | true => exact inv.final_of hq hf
      | false => exact absurd (inv.running_of hq hf) hr
  | waitAll e hm hl =>
    refine inv_setMain inv _ nofun (inv.mainW (by rw [hm]; nofun)) (fun e' he => ?_) (fun _ _ => hl)
    obtain rfl : e = e' := by rcases he with he | he <;> cases he; rfl
    exact inv.mainD e (Or.inl hm)

/-- the hypothesis of `inv_local` for a variable that the step sets, at `l`, to the value the new program counter
    expects -/
theorem written {α : Type} (f : Label → α) (l : Label) (v : α) {A : Prop} :
    (∀ x, x ≠ l → upd f l v x = f x) ∧ (A → upd f l v l = v) :=
  ⟨fun x hx => upd_other f l v x hx, fun _ => upd_same f l v⟩

theorem inv_tstep {P : Params} {s s' : State} {l : Label} {p : PC} (inv : Inv P s) (hp : s.pc l = some p)
    (h : TStep P s l p s') : Inv P s' := by
  have hpnd := h.ne_done
  cases h with
  | enter1 hc =>
    exact inv_local inv hp hpnd .load (hholds := written ..) (hslots := fun _ => inv.slots_enter hp rfl hc)
  | load =>
    have hloads : (∀ x, x ≠ l → upd s.loads l (s.loads l + 1) x = s.loads x) ∧
        (s.loads l = 0 → upd s.loads l (s.loads l + 1) l = 1) :=
      ⟨fun x hx => upd_other _ _ _ _ hx, fun h => (upd_same ..).trans (congrArg (· + 1) h)⟩
    cases hk : P.known l with
    | true => exact inv_local inv hp hpnd .evalStart (hloads := hloads) (hknown := fun _ _ => hk)
    | false =>
      exact inv_local inv hp hpnd (.finish .failed .unknown) (hloads := hloads)
        (hevals := ⟨fun _ _ => rfl, fun h => ⟨h.1, nofun⟩⟩) (hcyc := ⟨fun _ _ => rfl, fun _ _ => rfl⟩)
        (hfin := rfl)
  | evalStart =>
    have hone : s.evals l = 0 → upd s.evals l (s.evals l + 1) l ≤ 1 := fun h => by
      rw [upd_same, h]; exact Nat.le_refl 1
    exact inv_local inv hp hpnd .exit1
      (hevals := ⟨fun x hx => upd_other _ _ _ _ hx, fun h => ⟨hone (h.2 rfl), nofun⟩⟩)
  | exit1 =>
    exact inv_local inv hp hpnd (.startDeps (P.deps l)) (hholds := written ..) (hslots := fun _ => inv.slots_exit hp rfl)
  | start d rest => exact inv_local (inv.start hp hpnd d) (inv.pc_startTarget hp d) hpnd (.startDeps rest)
  | publish => exact inv_local inv hp hpnd (.walk (P.deps l)) (hwaiting := written ..)
  | unpub hs => exact inv_local inv hp hpnd (.enter2 (some hs)) (hwaiting := written ..)
  | unpubCyc => exact inv_local inv hp hpnd (.enter2 none) (hwaiting := written ..)
  | enter2 res hc =>
    exact inv_local inv hp hpnd (.evalRest res) (hholds := written ..) (hslots := fun _ => inv.slots_enter hp rfl hc)
  | evalRest res =>
    exact inv_local inv hp hpnd (.finish (localOutcome res (P.bodyOk l)).1 (localOutcome res (P.bodyOk l)).2)
      (hcyc := ⟨fun x hx => upd_other _ _ _ _ hx, fun _ _ => rfl⟩) (hknown := fun _ => nofun)
      (hfin := localOutcome_final _ _)
  | finish st e =>
    have hroot : P.root ≠ l → upd s.err l e P.root = s.err P.root ∧ upd s.status l st P.root = s.status P.root :=
      fun h => ⟨upd_other _ _ _ _ h, upd_other _ _ _ _ h⟩
    exact inv_local inv hp hpnd .exit2
      (hstatus := ⟨fun x hx => upd_other _ _ _ _ hx, fun _ => by
        show (upd s.status l st l).final = true; rw [upd_same]; exact inv.fin l st e hp⟩)
      (hroot := fun hf => hroot fun c => by rw [c, inv.running_of hp rfl] at hf; cases hf)
  | exit2 => exact inv_local inv hp hpnd .wgDone (hholds := written ..) (hslots := fun _ => inv.slots_exit hp rfl)
  | wgDone =>
    exact inv_local inv hp hpnd .done
      (hlive := by show s.live - 1 + 1 = s.live; have := inv.live_pos hp hpnd; omega)
  | _ => exact inv_local inv hp hpnd _

theorem inv_init (P : Params) : Inv P (init P) where
  nodup := List.nodup_nil
  reg := fun _ => ⟨nofun, fun h => absurd rfl h⟩
  status := fun _ => rfl
  holds := fun _ => rfl
  waiting := fun _ => rfl
  loads := fun _ => rfl
  evals := fun _ => Nat.zero_le 1
  evals0 := fun _ _ => rfl
  known := fun _ _ h => nomatch h
  cyc := nofun
  fin := fun _ _ _ h => nomatch h
  slots := rfl
  mainS := fun _ _ => rfl
  mainW := fun h => absurd rfl h
  mainD := fun _ h => by rcases h with h | h <;> cases h
  live := rfl
  mainL := nofun

theorem Reachable.inv {P : Params} {s : State} (h : Reachable P s) : Inv P s :=
  h.rec_steps (inv_init P) (fun _ i hm => inv_mstep i hm) (fun _ i hp ht => inv_tstep i hp ht)

/-- Once `Run` has returned every target thread it started has ended (the `sync.WaitGroup`). -/
theorem run_waits_all {P : Params} {s : State} (hr : Reachable P s) (e : Err) (hd : s.main = .done e) :
    ∀ l p, s.pc l = some p → p = .done := by
  intro l p hp
  have inv := hr.inv
  have h0 := inv.mainL e hd
  by_cases hpd : p = .done
  · exact hpd
  · have := inv.live_pos hp hpd
    omega

/-- From `s` to `s'` every thread other than `l` keeps its program counter or is spawned, and the registry grows by
    at most one label. (`l = none`: a step of the caller of `Run`.) -/
structure Frame (s s' : State) (l : Option Label) : Prop where
  pc  : ∀ x, some x ≠ l → s'.pc x = s.pc x ∨ (s.pc x = none ∧ s'.pc x = some .enter1)
  reg : s'.registry = s.registry ∨ ∃ d, s'.registry = d :: s.registry

theorem Frame.refl (s : State) (l : Option Label) : Frame s s l := ⟨fun _ _ => Or.inl rfl, Or.inl rfl⟩

theorem Frame.congr {s s₁ s' : State} {l : Option Label} (fr : Frame s s₁ l)
    (hpc : ∀ x, some x ≠ l → s'.pc x = s₁.pc x) (hreg : s'.registry = s₁.registry) : Frame s s' l :=
  ⟨fun x hx => by rw [hpc x hx]; exact fr.pc x hx, by rw [hreg]; exact fr.reg⟩

theorem Frame.pc_some {s s' : State} {l : Option Label} (fr : Frame s s' l) {x : Label} {p : PC} (hx : some x ≠ l)
    (hp : s.pc x = some p) : s'.pc x = some p := by
  rcases fr.pc x hx with e | ⟨e, _⟩
  · rw [e, hp]
  · rw [hp] at e; cases e

theorem mem_of_frame_reg {s c : State} {l : Option Label} (fr : Frame s c l) {x : Label} (h : x ∈ s.registry) :
    x ∈ c.registry := by
  rcases fr.reg with e | ⟨d, e⟩ <;> rw [e]
  · exact h
  · exact List.mem_cons_of_mem _ h

theorem frame_startTarget {P : Params} {s : State} (inv : Inv P s) (d : Label) (l : Option Label) :
    Frame s (startTarget s d) l := by
  rcases startTarget_cases s d with ⟨_, e⟩ | ⟨hi, e⟩ <;> rw [e]
  · exact Frame.refl s l
  · refine ⟨fun x _ => ?_, Or.inr ⟨d, rfl⟩⟩
    by_cases c : x = d
    · rw [c]; exact Or.inr ⟨inv.pc_none_of_idle hi, upd_same _ _ _⟩
    · exact Or.inl (upd_other _ _ _ _ c)

theorem tstep_frame {P : Params} {s s' : State} {l : Label} {p : PC} (inv : Inv P s) (h : TStep P s l p s') :
    Frame s s' (some l) := by
  have hl : ∀ (f : Label → Option PC) v x, some x ≠ some l → upd f l v x = f x :=
    fun f v x hx => upd_other f l v x fun c => hx (congrArg some c)
  cases h with
  | start d rest => exact (frame_startTarget inv d _).congr (hl _ _) rfl
  | _ => exact (Frame.refl s _).congr (hl _ _) rfl

theorem mstep_frame {P : Params} {s s' : State} (inv : Inv P s) (h : MStep P s s') : Frame s s' none := by
  cases h with
  | start hm => exact (frame_startTarget inv P.root _).congr (fun _ _ => rfl) rfl
  | _ => exact (Frame.refl s _).congr (fun _ _ => rfl) rfl

theorem Frame.afterRest {s s' : State} {l : Option Label} (fr : Frame s s' l) {x : Label} (hx : some x ≠ l) :
    (∃ q, s'.pc x = some q ∧ q.afterRest = true) ↔ (∃ q, s.pc x = some q ∧ q.afterRest = true) := by
  rcases fr.pc x hx with e | ⟨e, e'⟩
  · rw [e]
  · rw [e, e']
    exact ⟨fun ⟨q, hq, ha⟩ => (by cases hq; cases ha), fun ⟨q, hq, _⟩ => by cases hq⟩

end Dawn.Runner
