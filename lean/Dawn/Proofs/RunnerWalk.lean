import Dawn.Proofs.RunnerStep
/-!
# Runner: the publish-then-walk protocol in isolation (abstract model for C05)

A reduced transition system with only what the cycle check of `EvaluateTargets` needs: a thread publishes its
waiting set, walks the other threads' published sets with *non-atomic* reads, then either blocks on its
dependencies (`blocked`) or has found a cycle (`found`, still published), and finally un-publishes (`past`).
The runner model is mapped onto it in `Dawn/Proofs/RunnerDeadlock.lean`; the ghost fields
`ptime clock seen expd` have the same names and are updated in the same way there.

A thread may also skip the protocol (`skip`: its target is unknown). The invariant does not need the guard of `unpub`.

The invariant `RInv` has three groups of fields. `g…`: a thread is published iff it is between publishing and
un-publishing; time stamps are distinct and below the clock. `w…` (bundled as `Walking`): while `l` walks with work
list `t`, every node it has read is expanded or not dangerous, every dependency of an expanded node is read or in
`t`. `b…` (`Blocked`): a blocked thread has no dangerous dependency. `Danger l x` — `x` can still lead `l` back to
itself through sets published before `l`'s own — only shrinks under the steps of the other threads. When the work
list empties nothing read is dangerous, so a blocked thread has no dangerous dependency. On a cycle of blocked
threads the successor of the latest publisher is dangerous along the cycle: `no_blocked_cycle_iter`.
-/
namespace Dawn.Runner.Walk

inductive PC where
  | init                            -- has not published (yet)
  | walking (todo : List Label)     -- published, walking; head is the next read
  | blocked                         -- published, walk finished without a cycle, waiting for its dependencies
  | found                           -- published, walk found a cycle
  | past                            -- un-published again, or never took part
deriving DecidableEq, Repr

structure St where
  pc    : Label → PC
  pub   : Label → Bool
  ptime : Label → Nat
  clock : Nat
  seen  : Label → List Label     -- ghost: nodes this walker has read (published or not)
  expd  : Label → List Label     -- ghost: nodes read as published (their deps were pushed)

variable (deps : Label → List Label)

inductive Step : St → St → Prop where
  | publish (s : St) (l : Label) (h : s.pc l = .init) :
      Step s { s with pc := upd s.pc l (.walking (deps l)), pub := upd s.pub l true,
                      ptime := upd s.ptime l s.clock, clock := s.clock + 1,
                      seen := upd s.seen l [], expd := upd s.expd l [] }
  | skip (s : St) (l : Label) (h : s.pc l = .init) :
      Step s { s with pc := upd s.pc l .past }
  | found (s : St) (l : Label) (rest : List Label) (h : s.pc l = .walking (l :: rest)) :
      Step s { s with pc := upd s.pc l .found }
  | readPub (s : St) (l d : Label) (rest : List Label) (h : s.pc l = .walking (d :: rest))
      (hd : d ≠ l) (hp : s.pub d = true) :
      Step s { s with pc := upd s.pc l (.walking (deps d ++ rest)),
                      seen := upd s.seen l (d :: s.seen l), expd := upd s.expd l (d :: s.expd l) }
  | readUnpub (s : St) (l d : Label) (rest : List Label) (h : s.pc l = .walking (d :: rest))
      (hd : d ≠ l) (hp : s.pub d = false) :
      Step s { s with pc := upd s.pc l (.walking rest), seen := upd s.seen l (d :: s.seen l) }
  | walkDone (s : St) (l : Label) (h : s.pc l = .walking []) :
      Step s { s with pc := upd s.pc l .blocked }
  | unpub (s : St) (l : Label) (h : s.pc l = .blocked ∨ s.pc l = .found) :
      Step s { s with pc := upd s.pc l .past, pub := upd s.pub l false }

/-- `x` can still lead walker `l` back to itself through sets published before `l`'s own. -/
inductive Danger (s : St) (l : Label) : Label → Prop where
  | direct (x : Label) : x ≠ l → s.pub x = true → s.ptime x < s.ptime l → l ∈ deps x → Danger s l x
  | step (x y : Label) : x ≠ l → s.pub x = true → s.ptime x < s.ptime l → y ∈ deps x →
      Danger s l y → Danger s l x

def isWalking (p : PC) : Prop := ∃ t, p = .walking t
def active (p : PC) : Prop := isWalking p ∨ p = .blocked ∨ p = .found

structure RInv (s : St) : Prop where
  g1 : ∀ l, s.pc l = .init → s.pub l = false
  g2 : ∀ l, s.pub l = true → s.ptime l < s.clock
  g3 : ∀ l, s.pub l = true → active (s.pc l)
  g3' : ∀ l, active (s.pc l) → s.pub l = true
  g4 : ∀ a b, s.pub a = true → s.pub b = true → s.ptime a = s.ptime b → a = b
  -- walking
  w1 : ∀ l t, s.pc l = .walking t → ∀ x ∈ s.seen l, x ∈ s.expd l ∨ ¬ Danger deps s l x
  w2 : ∀ l t, s.pc l = .walking t → ∀ x ∈ s.expd l, ∀ y ∈ deps x, y ∈ s.seen l ∨ y ∈ t
  w3 : ∀ l t, s.pc l = .walking t → l ∉ s.seen l
  w4 : ∀ l t, s.pc l = .walking t → ∀ y ∈ deps l, y ∈ s.seen l ∨ y ∈ t
  w5 : ∀ l t, s.pc l = .walking t → ∀ x ∈ s.expd l, x ∈ s.seen l
  -- blocked
  b1 : ∀ l, s.pc l = .blocked → ∀ d ∈ deps l, ¬ Danger deps s l d
  b2 : ∀ l, s.pc l = .blocked → l ∉ deps l

variable {deps}

theorem Danger.anti {s s' : St} {l x : Label} (h : Danger deps s' l x)
    (hp : ∀ z, z ≠ l → s'.pub z = true → s'.ptime z < s'.ptime l → (s.pub z = true ∧ s.ptime z < s.ptime l)) :
    Danger deps s l x := by
  induction h with
  | direct x hx hpub hpt hy =>
    obtain ⟨h1, h2⟩ := hp x hx hpub hpt
    exact Danger.direct x hx h1 h2 hy
  | step x y hx hpub hpt hy _ ih =>
    obtain ⟨h1, h2⟩ := hp x hx hpub hpt
    exact Danger.step x y hx h1 h2 hy ih

theorem Danger.pub {s : St} {l x : Label} (h : Danger deps s l x) : s.pub x = true := by
  cases h with
  | direct _ _ hp _ _ => exact hp
  | step _ _ _ hp _ _ _ => exact hp

theorem seen_not_danger {s : St} {l : Label} (inv : RInv deps s) (h : s.pc l = .walking []) :
    ∀ x, Danger deps s l x → x ∈ s.seen l → False := by
  -- a dangerous node that was seen was expanded, and with the work list empty its dependencies were seen too
  have next : ∀ x, Danger deps s l x → x ∈ s.seen l → ∀ y ∈ deps x, y ∈ s.seen l := fun x hd hs y hy =>
    (inv.w2 l [] h x ((inv.w1 l [] h x hs).resolve_right fun n => n hd) y hy).resolve_right nofun
  intro x hd
  induction hd with
  | direct x hx hpub hpt hy => exact fun hs => inv.w3 l [] h (next x (.direct x hx hpub hpt hy) hs l hy)
  | step x y hx hpub hpt hy hrec ih => exact fun hs => ih (next x (.step x y hx hpub hpt hy hrec) hs y hy)

def iter (f : Label → Label) : Nat → Label → Label
  | 0, x => x
  | n + 1, x => f (iter f n x)

@[simp] theorem iter_zero (f : Label → Label) (x : Label) : iter f 0 x = x := rfl
theorem iter_succ (f : Label → Label) (n : Nat) (x : Label) : iter f (n + 1) x = f (iter f n x) := rfl

theorem iter_add (f : Label → Label) (a b : Nat) (x : Label) : iter f (a + b) x = iter f a (iter f b x) := by
  induction a with
  | zero => simp
  | succ a ih => rw [Nat.succ_add, iter_succ, iter_succ, ih]

theorem iter_succ' (f : Label → Label) (n : Nat) (x : Label) : iter f (n + 1) x = iter f n (f x) :=
  iter_add f n 1 x

/-- The contradiction used for deadlock freedom: no cycle of blocked threads. `r` is the latest publisher on the
    cycle `r → f r → f (f r) → … → r`; walking the cycle backwards from `r`, every node other than `r` is
    dangerous for `r`, in particular `r`'s own successor — which `r`'s walk excluded. -/
theorem no_blocked_cycle_iter {s : St} (inv : RInv deps s) (f : Label → Label) (r : Label) (m : Nat)
    (hB : ∀ t, s.pc (iter f t r) = .blocked)
    (hdep : ∀ t, f (iter f t r) ∈ deps (iter f t r))
    (hmax : ∀ t, s.ptime (iter f t r) ≤ s.ptime r)
    (hcyc : iter f (m + 1) r = r) : False := by
  have hr : s.pc r = .blocked := hB 0
  have hrpub : s.pub r = true := inv.g3' r (Or.inr (Or.inl hr))
  have key : ∀ j k, k + j = m + 1 → iter f k r = r ∨ Danger deps s r (iter f k r) := by
    intro j
    induction j with
    | zero => intro k hk; left; rw [Nat.add_zero] at hk; rw [hk]; exact hcyc
    | succ j ih =>
      intro k hk
      by_cases hxr : iter f k r = r
      · exact Or.inl hxr
      · right
        have hpub : s.pub (iter f k r) = true := inv.g3' _ (Or.inr (Or.inl (hB k)))
        have hlt : s.ptime (iter f k r) < s.ptime r := by
          rcases Nat.lt_or_ge (s.ptime (iter f k r)) (s.ptime r) with h | h
          · exact h
          · exact absurd (inv.g4 _ r hpub hrpub (Nat.le_antisymm (hmax k) h)) hxr
        have hab : iter f (k + 1) r ∈ deps (iter f k r) := hdep k
        rcases ih (k + 1) (by omega) with hn | hn
        · rw [hn] at hab; exact Danger.direct _ hxr hpub hlt hab
        · exact Danger.step _ _ hxr hpub hlt hab hn
  have h0 : f r ∈ deps r := hdep 0
  rcases key m 1 (by omega) with h | h
  · exact inv.b2 r hr (by rw [iter_succ, iter_zero] at h; rw [h] at h0; exact h0)
  · exact inv.b1 r hr (f r) h0 h

theorem active_walking (t : List Label) : active (.walking t) := Or.inl ⟨t, rfl⟩
theorem active_blocked : active .blocked := Or.inr (Or.inl rfl)
theorem active_found : active .found := Or.inr (Or.inr rfl)
theorem not_active_init : ¬ active .init := by
  intro h; rcases h with ⟨t, h⟩ | h | h <;> cases h
theorem not_active_past : ¬ active .past := by
  intro h; rcases h with ⟨t, h⟩ | h | h <;> cases h

theorem danger_same {s s' : St} {l x : Label} (h : Danger deps s' l x)
    (hp : s'.pub = s.pub) (ht : s'.ptime = s.ptime) : Danger deps s l x :=
  h.anti (by intro x _ h1 h2; rw [hp] at h1; rw [ht] at h2; exact ⟨h1, h2⟩)

theorem inv_init (s : St) (h0 : ∀ l, s.pc l = .init) (hp : ∀ l, s.pub l = false) : RInv deps s := by
  have hw : ∀ l t, s.pc l ≠ .walking t := fun l t h => by rw [h0 l] at h; cases h
  have hb : ∀ l, s.pc l ≠ .blocked := fun l h => by rw [h0 l] at h; cases h
  have hpub : ∀ l, s.pub l ≠ true := fun l h => by rw [hp l] at h; cases h
  exact {
    g1 := fun l _ => hp l
    g2 := fun l h => absurd h (hpub l)
    g3 := fun l h => absurd h (hpub l)
    g3' := fun l h => by rw [h0 l] at h; exact absurd h not_active_init
    g4 := fun a _ h => absurd h (hpub a)
    w1 := fun l t h => absurd h (hw l t)
    w2 := fun l t h => absurd h (hw l t)
    w3 := fun l t h => absurd h (hw l t)
    w4 := fun l t h => absurd h (hw l t)
    w5 := fun l t h => absurd h (hw l t)
    b1 := fun l h => absurd h (hb l)
    b2 := fun l h => absurd h (hb l) }

variable (deps) in
def Walking (s : St) (l : Label) (t : List Label) : Prop :=
  (∀ x ∈ s.seen l, x ∈ s.expd l ∨ ¬ Danger deps s l x) ∧
  (∀ x ∈ s.expd l, ∀ y ∈ deps x, y ∈ s.seen l ∨ y ∈ t) ∧
  l ∉ s.seen l ∧ (∀ y ∈ deps l, y ∈ s.seen l ∨ y ∈ t) ∧ ∀ x ∈ s.expd l, x ∈ s.seen l

variable (deps) in
def Blocked (s : St) (l : Label) : Prop := (∀ d ∈ deps l, ¬ Danger deps s l d) ∧ l ∉ deps l

theorem RInv.walking {s : St} (inv : RInv deps s) {l : Label} {t : List Label} (h : s.pc l = .walking t) :
    Walking deps s l t := ⟨inv.w1 l t h, inv.w2 l t h, inv.w3 l t h, inv.w4 l t h, inv.w5 l t h⟩

/-- Thread `a` moves to `p'`. The other threads read only their own variables and `Danger`, and `Danger` only
    shrinks, so what the invariant says about them survives; what it says about `a` is the caller's business. -/
theorem inv_move {s s' : St} (inv : RInv deps s) (a : Label) (p' : PC) (hpca : s'.pc a = p')
    (hpc : ∀ l, l ≠ a → s'.pc l = s.pc l) (hpub : ∀ l, l ≠ a → s'.pub l = s.pub l)
    (hseen : ∀ l, l ≠ a → s'.seen l = s.seen l) (hexpd : ∀ l, l ≠ a → s'.expd l = s.expd l)
    (hdan : ∀ l, l ≠ a → s.pub l = true → ∀ x, Danger deps s' l x → Danger deps s l x)
    (g2 : ∀ l, s'.pub l = true → s'.ptime l < s'.clock)
    (g4 : ∀ x y, s'.pub x = true → s'.pub y = true → s'.ptime x = s'.ptime y → x = y)
    (ha : s'.pub a = true ↔ active p')
    (hw : ∀ t, p' = .walking t → Walking deps s' a t) (hb : p' = .blocked → Blocked deps s' a) :
    RInv deps s' := by
  have g3 : ∀ l, s'.pub l = true ↔ active (s'.pc l) := fun l => by
    by_cases e : l = a
    · rw [e, hpca]; exact ha
    · rw [hpc l e, hpub l e]; exact ⟨inv.g3 l, inv.g3' l⟩
  have all : ∀ l, (∀ t, s'.pc l = .walking t → Walking deps s' l t) ∧
      (s'.pc l = .blocked → Blocked deps s' l) := by
    intro l
    by_cases e : l = a
    · rw [e, hpca]; exact ⟨hw, hb⟩
    · rw [hpc l e]
      refine ⟨fun t h => ?_, fun h => ?_⟩
      · have hd := hdan l e (inv.g3' l (h ▸ active_walking t))
        unfold Walking; rw [hseen l e, hexpd l e]
        exact ⟨fun x hx => (inv.w1 l t h x hx).imp_right fun n d => n (hd x d), inv.w2 l t h, inv.w3 l t h,
          inv.w4 l t h, inv.w5 l t h⟩
      · have hd := hdan l e (inv.g3' l (h ▸ active_blocked))
        exact ⟨fun d hdd n => inv.b1 l h d hdd (hd d n), inv.b2 l h⟩
  exact {
    g1 := fun l h => by
      cases hp : s'.pub l with
      | false => rfl
      | true => have := (g3 l).mp hp; rw [h] at this; exact absurd this not_active_init
    g2 := g2, g3 := fun l => (g3 l).mp, g3' := fun l => (g3 l).mpr, g4 := g4
    w1 := fun l t h => ((all l).1 t h).1
    w2 := fun l t h => ((all l).1 t h).2.1
    w3 := fun l t h => ((all l).1 t h).2.2.1
    w4 := fun l t h => ((all l).1 t h).2.2.2.1
    w5 := fun l t h => ((all l).1 t h).2.2.2.2
    b1 := fun l h => ((all l).2 h).1
    b2 := fun l h => ((all l).2 h).2 }

theorem inv_quiet {s s' : St} (inv : RInv deps s) (a : Label) (p' : PC) (hpc : s'.pc = upd s.pc a p')
    (hpub : s'.pub = s.pub) (hpt : s'.ptime = s.ptime) (hc : s'.clock = s.clock)
    (hseen : ∀ l, l ≠ a → s'.seen l = s.seen l) (hexpd : ∀ l, l ≠ a → s'.expd l = s.expd l)
    (ha : active p' ↔ active (s.pc a))
    (hw : ∀ t, p' = .walking t → Walking deps s' a t) (hb : p' = .blocked → Blocked deps s' a) :
    RInv deps s' :=
  inv_move inv a p' (by rw [hpc, upd_same]) (fun l e => by rw [hpc, upd_other _ _ _ _ e]) (fun l _ => by rw [hpub])
    hseen hexpd (fun _ _ _ _ d => danger_same d hpub hpt) (by rw [hpub, hpt, hc]; exact inv.g2)
    (by rw [hpub, hpt]; exact inv.g4) (by rw [hpub, ha]; exact ⟨inv.g3 a, inv.g3' a⟩) hw hb

/-- reading `d` moves it from the work list to the nodes seen; `extra` is what the read pushes -/
theorem mem_after_read {seen rest : List Label} {d y : Label} (extra : List Label) (h : y ∈ seen ∨ y ∈ d :: rest) :
    y ∈ d :: seen ∨ y ∈ extra ++ rest := by
  rcases h with h | h
  · exact Or.inl (List.mem_cons_of_mem _ h)
  · rcases List.mem_cons.mp h with rfl | h
    · exact Or.inl List.mem_cons_self
    · exact Or.inr (List.mem_append_right _ h)

theorem inv_step {s s' : St} (inv : RInv deps s) (st : Step deps s s') : RInv deps s' := by
  cases st with
  | skip a h =>
    exact inv_quiet inv a .past rfl rfl rfl rfl (fun _ _ => rfl) (fun _ _ => rfl)
      (by rw [h]; exact ⟨fun c => absurd c not_active_past, fun c => absurd c not_active_init⟩) nofun nofun
  | found a rest h =>
    exact inv_quiet inv a .found rfl rfl rfl rfl (fun _ _ => rfl) (fun _ _ => rfl)
      (by rw [h]; exact ⟨fun _ => active_walking _, fun _ => active_found⟩) nofun nofun
  | readPub a d rest h hd hp =>
    obtain ⟨w1, w2, w3, w4, w5⟩ := inv.walking h
    refine inv_quiet inv a _ rfl rfl rfl rfl (fun l e => upd_other _ _ _ _ e) (fun l e => upd_other _ _ _ _ e)
      (by rw [h]; exact ⟨fun _ => active_walking _, fun _ => active_walking _⟩) (fun t ht => ?_) nofun
    cases ht
    unfold Walking
    simp only [upd_same]
    refine ⟨fun x hx => ?_, fun x hx y hy => ?_, fun c => ?_, fun y hy => mem_after_read _ (w4 y hy), fun x hx => ?_⟩
    · rcases List.mem_cons.mp hx with rfl | hx
      · exact Or.inl List.mem_cons_self
      · exact (w1 x hx).imp (List.mem_cons_of_mem _) fun n dd => n (danger_same dd rfl rfl)
    · rcases List.mem_cons.mp hx with rfl | hx
      · exact Or.inr (List.mem_append_left _ hy)
      · exact mem_after_read _ (w2 x hx y hy)
    · rcases List.mem_cons.mp c with rfl | c
      · exact hd rfl
      · exact w3 c
    · rcases List.mem_cons.mp hx with rfl | hx
      · exact List.mem_cons_self
      · exact List.mem_cons_of_mem _ (w5 x hx)
  | readUnpub a d rest h hd hp =>
    obtain ⟨w1, w2, w3, w4, w5⟩ := inv.walking h
    refine inv_quiet inv a _ rfl rfl rfl rfl (fun l e => upd_other _ _ _ _ e) (fun _ _ => rfl)
      (by rw [h]; exact ⟨fun _ => active_walking _, fun _ => active_walking _⟩) (fun t ht => ?_) nofun
    cases ht
    unfold Walking
    simp only [upd_same]
    refine ⟨fun x hx => ?_, fun x hx y hy => mem_after_read [] (w2 x hx y hy), fun c => ?_,
      fun y hy => mem_after_read [] (w4 y hy), fun x hx => List.mem_cons_of_mem _ (w5 x hx)⟩
    · rcases List.mem_cons.mp hx with rfl | hx
      · -- an unpublished node is not dangerous
        exact Or.inr fun dd => by have := Danger.pub dd; rw [show _ = s.pub x from rfl, hp] at this; cases this
      · exact (w1 x hx).imp_right fun n dd => n (danger_same dd rfl rfl)
    · rcases List.mem_cons.mp c with rfl | c
      · exact hd rfl
      · exact w3 c
  | walkDone a h =>
    refine inv_quiet inv a .blocked rfl rfl rfl rfl (fun _ _ => rfl) (fun _ _ => rfl)
      (by rw [h]; exact ⟨fun _ => active_walking _, fun _ => active_blocked⟩) nofun (fun _ => ?_)
    -- the work list is empty: every dependency of `a` has been seen, and nothing seen is dangerous
    have hseen : ∀ y ∈ deps a, y ∈ s.seen a := fun y hy => (inv.w4 a [] h y hy).resolve_right nofun
    exact ⟨fun d' hd' hdan => seen_not_danger inv h d' (danger_same hdan rfl rfl) (hseen d' hd'),
      fun hself => inv.w3 a [] h (hseen a hself)⟩
  | publish a h =>
    refine inv_move inv a _ (upd_same ..) (fun l e => upd_other _ _ _ _ e) (fun l e => upd_other _ _ _ _ e)
      (fun l e => upd_other _ _ _ _ e) (fun l e => upd_other _ _ _ _ e)
      (fun l e hpl x d => d.anti fun z _ h1 h2 => ?_)
      (upd_rel₂ (R := fun _ b t => b = true → t < s.clock + 1) (fun l h => Nat.lt_succ_of_lt (inv.g2 l h))
        fun _ => Nat.lt_succ_self _)
      (fun x y hx hy hxy => ?_) ⟨fun _ => active_walking _, fun _ => upd_same ..⟩ (fun t ht => ?_) nofun
    · -- a set published now is later than `l`'s and so never on a `Danger l` path
      have hlt := inv.g2 l hpl
      have h1 : upd s.pub a true z = true := h1
      have h2 : upd s.ptime a s.clock z < upd s.ptime a s.clock l := h2
      rw [upd_other _ _ _ _ e] at h2
      by_cases hz : z = a
      · rw [hz, upd_same] at h2; omega
      · rw [upd_other _ _ _ _ hz] at h1 h2; exact ⟨h1, h2⟩
    · have hx : upd s.pub a true x = true := hx
      have hy : upd s.pub a true y = true := hy
      have hxy : upd s.ptime a s.clock x = upd s.ptime a s.clock y := hxy
      by_cases ex : x = a <;> by_cases ey : y = a
      · rw [ex, ey]
      · rw [ex, upd_same, upd_other _ _ _ _ ey] at hxy; rw [upd_other _ _ _ _ ey] at hy; have := inv.g2 y hy; omega
      · rw [ey, upd_same, upd_other _ _ _ _ ex] at hxy; rw [upd_other _ _ _ _ ex] at hx; have := inv.g2 x hx; omega
      · rw [upd_other _ _ _ _ ex] at hx hxy; rw [upd_other _ _ _ _ ey] at hy hxy; exact inv.g4 x y hx hy hxy
    · cases ht
      unfold Walking
      simp only [upd_same]
      exact ⟨nofun, nofun, nofun, fun y hy => Or.inr hy, nofun⟩
  | unpub a h =>
    have sub : ∀ z, upd s.pub a false z = true → s.pub z = true := fun z hz => by
      by_cases e : z = a
      · rw [e, upd_same] at hz; cases hz
      · rwa [upd_other _ _ _ _ e] at hz
    -- un-publishing: `pub` only shrinks, so `Danger` only shrinks
    exact inv_move inv a .past (upd_same ..) (fun l e => upd_other _ _ _ _ e) (fun l e => upd_other _ _ _ _ e)
      (fun _ _ => rfl) (fun _ _ => rfl) (fun l _ _ x d => d.anti fun z _ h1 h2 => ⟨sub z h1, h2⟩)
      (fun l hl => inv.g2 l (sub l hl)) (fun x y hx hy => inv.g4 x y (sub x hx) (sub y hy))
      ⟨fun h => (by have h : upd s.pub a false a = true := h; rw [upd_same] at h; cases h),
        fun h => absurd h not_active_past⟩ nofun nofun

inductive Reach (deps : Label → List Label) (s0 : St) : St → Prop where
  | refl : Reach deps s0 s0
  | step {s s'} : Reach deps s0 s → Step deps s s' → Reach deps s0 s'

theorem inv_reach {s0 s : St} (h0 : ∀ l, s0.pc l = .init) (hp : ∀ l, s0.pub l = false)
    (hr : Reach deps s0 s) : RInv deps s := by
  induction hr with
  | refl => exact inv_init s0 h0 hp
  | step _ st ih => exact inv_step ih st

end Dawn.Runner.Walk
