import Dawn.Model.Env
/-!
Equations and elementary facts of the list functions of the model (`chunks`, `flattenKvs`, `lookup`, `indexOf`) and of
`encodeOps`, used by every proof about the traversal; the vocabulary of sound heaps (`Closed`, `Picklable`).
-/
namespace Dawn.Env

theorem chunks_stop {α} (n : Nat) (xs : List α) (h : n = 0 ∨ xs = []) : chunks n xs = [] := by
  rw [chunks]; simp [h]

theorem chunks_step {α} (n : Nat) (xs : List α) (hn : n ≠ 0) (hx : xs ≠ []) :
    chunks n xs = xs.take n :: chunks n (xs.drop n) := by
  rw [chunks]; simp [hn, hx]

theorem mem_chunks {α} (n : Nat) (xs : List α) : ∀ b ∈ chunks n xs, ∀ x ∈ b, x ∈ xs := by
  induction xs using chunks.induct n with
  | case1 xs h => rw [chunks_stop n xs h]; intro b hb; cases hb
  | case2 xs h ih =>
    rw [chunks_step n xs (not_or.mp h).1 (not_or.mp h).2]
    intro b hb x hx
    rcases List.mem_cons.mp hb with rfl | hb
    · exact List.mem_of_mem_take hx
    · exact List.mem_of_mem_drop (ih b hb x hx)

theorem chunks_map {α β} (f : α → β) (n : Nat) (xs : List α) :
    chunks n (xs.map f) = (chunks n xs).map (List.map f) := by
  induction xs using chunks.induct n with
  | case1 xs h => rw [chunks_stop n xs h, chunks_stop _ _ (by simpa using h)]; rfl
  | case2 xs h ih =>
    have ⟨hn, hx⟩ := not_or.mp h
    rw [chunks_step n xs hn hx, chunks_step _ _ hn (by simpa using hx), List.map_cons, ← ih, List.map_take, List.map_drop]

theorem chunks_flatten {α} (n : Nat) (hn : n ≠ 0) (xs : List α) : (chunks n xs).flatten = xs := by
  induction xs using chunks.induct n with
  | case1 xs h => rw [chunks_stop n xs h]; exact (h.resolve_left hn).symm
  | case2 xs h ih => rw [chunks_step n xs hn (not_or.mp h).2, List.flatten_cons, ih, List.take_append_drop]

/-- a first batch that is full, or all there is -/
theorem chunks_append {α} (n : Nat) (a b : List α) (hpos : 0 < a.length) (hle : a.length ≤ n) (hb : a.length < n → b = []) :
    chunks n (a ++ b) = a :: chunks n b := by
  rw [chunks_step n _ (by omega) (by simp [List.ne_nil_of_length_pos hpos])]
  by_cases h : a.length = n
  · rw [List.take_left' h, List.drop_left' h]
  · rw [hb (by omega), List.append_nil, List.take_of_length_le hle, List.drop_of_length_le hle]

theorem flattenKvs_take : ∀ (k : Nat) (l : List (Val × Val)), flattenKvs (l.take k) = (flattenKvs l).take (2 * k)
  | 0, _ => rfl
  | _ + 1, [] => rfl
  | k + 1, (a, b) :: r => by
    rw [List.take_succ_cons, flattenKvs, flattenKvs, flattenKvs_take k r, Nat.mul_succ]; rfl

theorem flattenKvs_drop : ∀ (k : Nat) (l : List (Val × Val)), flattenKvs (l.drop k) = (flattenKvs l).drop (2 * k)
  | 0, _ => rfl
  | _ + 1, [] => rfl
  | k + 1, (a, b) :: r => by
    rw [List.drop_succ_cons, flattenKvs, flattenKvs_drop k r, Nat.mul_succ]; rfl

theorem chunks_flattenKvs (m : Nat) (kvs : List (Val × Val)) :
    (chunks m kvs).map flattenKvs = chunks (2 * m) (flattenKvs kvs) := by
  have nil : ∀ l : List (Val × Val), flattenKvs l = [] ↔ l = [] := fun l => by
    rcases l with _ | ⟨⟨a, b⟩, r⟩ <;> simp [flattenKvs]
  induction kvs using chunks.induct m with
  | case1 kvs h => rw [chunks_stop m kvs h, chunks_stop _ _ (h.imp (by omega) (nil _).mpr)]; rfl
  | case2 kvs h ih =>
    have ⟨hm, hx⟩ := not_or.mp h
    rw [chunks_step m kvs hm hx, chunks_step _ _ (by omega) (mt (nil _).mp hx), List.map_cons, ih,
      flattenKvs_take, flattenKvs_drop]

theorem length_two {α} {l : List α} (h : l.length = 2) : ∃ a b, l = [a, b] :=
  match l, h with | [a, b], _ => ⟨a, b, rfl⟩

theorem length_three {α} {l : List α} (h : l.length = 3) : ∃ a b c, l = [a, b, c] :=
  match l, h with | [a, b, c], _ => ⟨a, b, c, rfl⟩

theorem lookup_cons (m : List (Nat × Nat)) (k v a : Nat) :
    lookup ((k, v) :: m) a = if k = a then some v else lookup m a := rfl

theorem indexOf_none (xs : List Nat) (a : Nat) : indexOf xs a = none ↔ a ∉ xs := by
  induction xs with
  | nil => simp [indexOf]
  | cons x rest ih =>
    simp only [indexOf, List.mem_cons]
    by_cases h : x = a
    · simp [h]
    · simp only [h, ↓reduceIte, Option.map_eq_none_iff, ih, Ne.symm h, false_or]

theorem encodeOps_ok {cfg : Cfg} {g : Heap} {f : Nat} {r : Val} {ops : List Op} (h : encodeOps cfg g f r = .ok ops) :
    ∃ s o, encVal cfg g f {} r = .ok (s, o) ∧ o ++ [.stop] = ops := by
  simp only [encodeOps] at h
  split at h
  · cases h
  · next s o he => cases h; exact ⟨s, o, he, rfl⟩

theorem encodeOps_error {cfg : Cfg} {g : Heap} {f : Nat} {r : Val} {e : Err} (h : encodeOps cfg g f r = .error e) :
    encVal cfg g f {} r = .error e := by
  simp only [encodeOps] at h
  split at h
  · next he => cases h; exact he
  · cases h

def ValClosed (g : Heap) : Val → Prop
  | .atom _ => True
  | .ref a => a < g.length

/-- the values an object refers to -/
def objVals : Obj → List Val
  | .tuple xs => xs
  | .list xs => xs
  | .dict kvs => flattenKvs kvs
  | .set xs => xs
  | .target _ => []
  | .builtin _ recv => [recv]
  | .code _ m gl _ sig => [m, gl, sig]
  | .func _ d fv c => [d, fv, c]
  | .mandatory => []
  | .other => []

/-- every address stored in the heap is an address of the heap -/
def Closed (g : Heap) : Prop := ∀ o ∈ g, ∀ v ∈ objVals o, ValClosed g v

/-- no value that neither the encoder nor the pickler has a case for -/
def Picklable (g : Heap) : Prop := Obj.other ∉ g

/-- what excludes the errors other than "out of fuel": the placeholder is pickled, every stored address exists,
nothing is unpicklable -/
def Sound (cfg : Cfg) (g : Heap) : Prop := cfg.mandatory = true ∧ Closed g ∧ Picklable g

end Dawn.Env
