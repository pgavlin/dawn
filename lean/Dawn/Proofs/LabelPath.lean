import Dawn.Proofs.Label
/-! Helper lemmas about the model of `path.Clean` (component stack), used by C12 (`repoSourcePath`) and C19
(`CleanPath`). -/
namespace Dawn.Label

/-- an element `path.Clean` keeps as it is -/
def Normal (e : Bytes) : Prop := e ≠ [] ∧ e ≠ [dot] ∧ e ≠ dotdot

/-- the shape of the stack of `path.Clean`: kept elements on top of the `..` elements that could not be resolved
(none in a rooted path) -/
def StackOK (rooted : Bool) (st : List Bytes) : Prop :=
  ∃ ns k, st = ns ++ List.replicate k dotdot ∧ (∀ e ∈ ns, Normal e) ∧ (rooted = true → k = 0)

theorem nil_normal : ∀ e ∈ ([] : List Bytes), Normal e := fun _ h => absurd h List.not_mem_nil

theorem pstep_skip (rooted : Bool) (st : List Bytes) (e : Bytes) (h : e = [] ∨ e = [dot]) : pstep rooted st e = st := by
  simp [pstep, h]

theorem pstep_normal (rooted : Bool) (st : List Bytes) (e : Bytes) (h : Normal e) : pstep rooted st e = e :: st := by
  obtain ⟨h1, h2, h3⟩ := h
  have h3' : ¬ e = [dot, dot] := h3
  simp [pstep, h1, h2, h3']

theorem dotdot_not_normal : ¬ Normal dotdot := fun h => h.2.2 rfl

theorem elem_cases (e : Bytes) : (e = [] ∨ e = [dot]) ∨ e = dotdot ∨ Normal e := by
  by_cases h1 : e = []
  · exact Or.inl (Or.inl h1)
  by_cases h2 : e = [dot]
  · exact Or.inl (Or.inr h2)
  by_cases h3 : e = dotdot
  · exact Or.inr (Or.inl h3)
  · exact Or.inr (Or.inr ⟨h1, h2, h3⟩)

theorem pstep_dotdot (rooted : Bool) (ns : List Bytes) (k : Nat) (hns : ∀ e ∈ ns, Normal e) :
    pstep rooted (ns ++ List.replicate k dotdot) dotdot =
      match ns with
      | [] => if rooted = true ∧ k = 0 then [] else List.replicate (k + 1) dotdot
      | _ :: ns' => ns' ++ List.replicate k dotdot := by
  cases ns with
  | nil =>
    cases k with
    | zero => cases rooted <;> simp [pstep, dotdot]
    | succ k => simp [pstep, dotdot, List.replicate_succ]
  | cons t ns' =>
    have ht : t ≠ dotdot := fun h => dotdot_not_normal (h ▸ hns t List.mem_cons_self)
    have ht' : ¬ t = [dot, dot] := ht
    simp [pstep, dotdot, ht']

theorem stackOK_step (rooted : Bool) (st : List Bytes) (e : Bytes) (h : StackOK rooted st) : StackOK rooted (pstep rooted st e) := by
  obtain ⟨ns, k, rfl, hns, hk⟩ := h
  rcases elem_cases e with hs | rfl | hn
  · rw [pstep_skip _ _ _ hs]; exact ⟨ns, k, rfl, hns, hk⟩
  · rw [pstep_dotdot rooted ns k hns]
    cases ns with
    | nil =>
      simp only
      split
      · exact ⟨[], 0, rfl, nil_normal, fun _ => rfl⟩
      · rename_i hc
        refine ⟨[], k + 1, rfl, nil_normal, fun hr => ?_⟩
        exact absurd ⟨hr, hk hr⟩ hc
    | cons t ns' => exact ⟨ns', k, rfl, (List.forall_mem_cons.mp hns).2, hk⟩
  · rw [pstep_normal _ _ _ hn]
    exact ⟨e :: ns, k, rfl, List.forall_mem_cons.mpr ⟨hn, hns⟩, hk⟩

theorem stackOK_fold (rooted : Bool) (es : List Bytes) : ∀ st, StackOK rooted st → StackOK rooted (es.foldl (pstep rooted) st) := by
  induction es with
  | nil => intro st h; exact h
  | cons e es ih => intro st h; exact ih _ (stackOK_step rooted st e h)

theorem stackOK_nil (rooted : Bool) : StackOK rooted [] := ⟨[], 0, rfl, nil_normal, fun _ => rfl⟩

theorem mem_pstep (rooted : Bool) (st : List Bytes) (e x : Bytes) (h : x ∈ pstep rooted st e) : x ∈ st ∨ x = e := by
  rcases elem_cases e with hs | rfl | hn
  · rw [pstep_skip _ _ _ hs] at h; exact Or.inl h
  · unfold pstep at h
    rw [if_neg (by decide), if_pos (show dotdot = [dot, dot] from rfl)] at h
    cases st with
    | nil =>
      cases rooted
      · exact Or.inr (List.mem_singleton.mp h)
      · cases h
    | cons t below =>
      dsimp only at h
      split at h
      · exact (List.mem_cons.mp h).symm
      · exact Or.inl (List.mem_cons_of_mem _ h)
  · rw [pstep_normal _ _ _ hn] at h; exact (List.mem_cons.mp h).symm

theorem mem_fold (rooted : Bool) (es : List Bytes) : ∀ st x, x ∈ es.foldl (pstep rooted) st → x ∈ st ∨ x ∈ es := by
  induction es with
  | nil => intro st x h; exact Or.inl h
  | cons e es ih =>
    intro st x h
    rcases ih _ x h with h' | h'
    · rcases mem_pstep rooted st e x h' with h'' | h''
      · exact Or.inl h''
      · exact Or.inr (h'' ▸ List.mem_cons_self)
    · exact Or.inr (List.mem_cons_of_mem _ h')

theorem fold_suffix (rooted : Bool) (es : List Bytes) (h : ∀ e ∈ es, (e = [] ∨ e = [dot]) ∨ Normal e) (st : List Bytes) :
    st <:+ es.foldl (pstep rooted) st := by
  induction es generalizing st with
  | nil => exact List.suffix_refl st
  | cons e es ih =>
    have ih' := ih (fun x hx => h x (List.mem_cons_of_mem _ hx))
    rw [List.foldl_cons]
    rcases h e List.mem_cons_self with hs | hn
    · rw [pstep_skip _ _ _ hs]; exact ih' st
    · rw [pstep_normal _ _ _ hn]; exact (List.suffix_cons e st).trans (ih' _)

theorem fold_normal (rooted : Bool) (es : List Bytes) (h : ∀ e ∈ es, Normal e) (st : List Bytes) :
    es.foldl (pstep rooted) st = es.reverse ++ st := by
  induction es generalizing st with
  | nil => rfl
  | cons e es ih =>
    rw [List.foldl_cons, pstep_normal _ _ _ (h e List.mem_cons_self), ih (fun x hx => h x (List.mem_cons_of_mem _ hx)),
      List.reverse_cons, List.append_assoc]
    rfl

/-- `path.Clean`'s result for a stack of kept elements -/
def render (rooted : Bool) (st : List Bytes) : Bytes :=
  let body := join slash st.reverse
  if rooted then slash :: body else if body = [] then [dot] else body

/-- the stack `path.Clean` ends with -/
def pathStack (p : Bytes) : List Bytes := (split slash p).foldl (pstep (p.head? = some slash)) []

theorem pathClean_eq (p : Bytes) : pathClean p = render (p.head? = some slash) (pathStack p) := by
  unfold pathClean render pathStack
  by_cases hp : p = []
  · subst hp; decide
  · simp only [hp, ↓reduceIte, decide_eq_true_eq]

theorem pathStack_ok (p : Bytes) : StackOK (p.head? = some slash) (pathStack p) ∧ ∀ e ∈ pathStack p, slash ∉ e :=
  ⟨stackOK_fold _ _ _ (stackOK_nil _), fun e he =>
    mem_split_no_sep slash p e ((mem_fold _ _ _ _ he).resolve_left List.not_mem_nil)⟩

theorem fold_dds (k : Nat) : ∀ j, (List.replicate k dotdot).foldl (pstep false) (List.replicate j dotdot) =
    List.replicate (j + k) dotdot := by
  induction k with
  | zero => intro j; rfl
  | succ k ih =>
    intro j
    have := pstep_dotdot false [] j nil_normal
    simp only [List.nil_append, Bool.false_eq_true, false_and, ↓reduceIte] at this
    rw [List.replicate_succ, List.foldl_cons, this, ih (j + 1)]
    congr 1; omega

theorem normal_of_stack {ns : List Bytes} {k : Nat} (hns : ∀ e ∈ ns, Normal e) :
    ∀ e ∈ ns ++ List.replicate k dotdot, e ≠ [] := by
  intro e he
  rcases List.mem_append.mp he with h | h
  · exact (hns e h).1
  · rw [List.eq_of_mem_replicate h]; decide

theorem fold_stack (rooted : Bool) (ns : List Bytes) (k : Nat) (hns : ∀ e ∈ ns, Normal e) (hk : rooted = true → k = 0) :
    (ns ++ List.replicate k dotdot).reverse.foldl (pstep rooted) [] = ns ++ List.replicate k dotdot := by
  have hd : (List.replicate k dotdot).foldl (pstep rooted) [] = List.replicate k dotdot := by
    cases rooted with
    | true => rw [hk rfl]; rfl
    | false => simpa using fold_dds k 0
  rw [List.reverse_append, List.reverse_replicate, List.foldl_append, hd,
    fold_normal rooted ns.reverse (fun e he => hns e (List.mem_reverse.mp he)), List.reverse_reverse]

theorem pathStack_render (rooted : Bool) (st : List Bytes) (hok : StackOK rooted st) (hsl : ∀ e ∈ st, slash ∉ e) :
    ((render rooted st).head? = some slash ↔ rooted = true) ∧ pathStack (render rooted st) = st := by
  obtain ⟨ns, k, rfl, hns, hk⟩ := hok
  by_cases hnil : ns ++ List.replicate k dotdot = []
  · rw [hnil]; cases rooted <;> decide
  · have hrne : (ns ++ List.replicate k dotdot).reverse ≠ [] := fun h => hnil (List.reverse_eq_nil_iff.mp h)
    have hne : ∀ e ∈ (ns ++ List.replicate k dotdot).reverse, e ≠ [] ∧ slash ∉ e := fun e he =>
      ⟨normal_of_stack hns e (List.mem_reverse.mp he), hsl e (List.mem_reverse.mp he)⟩
    have hj := join_head_of _ hrne hne
    have hsplit := split_join _ (fun e he => (hne e he).2) hrne
    have hfold := fold_stack rooted ns k hns hk
    cases rooted with
    | true =>
      refine ⟨iff_of_true rfl rfl, ?_⟩
      simp only [pathStack, render, ↓reduceIte, List.head?_cons, decide_true, split_cons_sep, List.foldl_cons,
        pstep_skip _ _ _ (Or.inl rfl : ([] : Bytes) = [] ∨ ([] : Bytes) = [dot]), hsplit, hfold]
    | false =>
      have hrender : render false (ns ++ List.replicate k dotdot) = join slash (ns ++ List.replicate k dotdot).reverse := by
        simp only [render, Bool.false_eq_true, ↓reduceIte, hj.1]
      rw [hrender]
      refine ⟨iff_of_false hj.2 Bool.false_ne_true, ?_⟩
      simp only [pathStack, eq_false hj.2, decide_false, hsplit, hfold]

/-- what `path.Clean` returns is a fixed point of `path.Clean` -/
theorem pathClean_idem (p : Bytes) : pathClean (pathClean p) = pathClean p := by
  obtain ⟨hh, hs⟩ := pathStack_render _ _ (pathStack_ok p).1 (pathStack_ok p).2
  rw [pathClean_eq p, pathClean_eq (render _ _), hs, decide_eq_decide.mpr (hh.trans decide_eq_true_iff)]


/-- does walking the elements from depth `d` ever step above the starting directory's `d`-th ancestor?
(independent of the stack model: a counter) -/
def escapesFrom : Nat → List Bytes → Bool
  | _, [] => false
  | d, e :: rest =>
    if e = [] ∨ e = [dot] then escapesFrom d rest
    else if e = dotdot then
      match d with
      | 0 => true
      | d' + 1 => escapesFrom d' rest
    else escapesFrom (d + 1) rest

theorem dotdot_mem_stack (ns : List Bytes) (k : Nat) (hns : ∀ e ∈ ns, Normal e) :
    dotdot ∈ ns ++ List.replicate k dotdot ↔ k > 0 := by
  rw [List.mem_append, List.mem_replicate]
  exact ⟨fun h => h.elim (fun h => absurd (hns _ h) dotdot_not_normal) (fun h => Nat.pos_of_ne_zero h.1),
    fun h => Or.inr ⟨Nat.ne_of_gt h, rfl⟩⟩

theorem esc_fold (es : List Bytes) : ∀ (ns : List Bytes) (k : Nat), (∀ e ∈ ns, Normal e) →
    (dotdot ∈ es.foldl (pstep false) (ns ++ List.replicate k dotdot) ↔ (k > 0 ∨ escapesFrom ns.length es = true)) := by
  induction es with
  | nil =>
    intro ns k hns
    simp only [List.foldl_nil, escapesFrom, Bool.false_eq_true, or_false]
    exact dotdot_mem_stack ns k hns
  | cons e es ih =>
    intro ns k hns
    rcases elem_cases e with hs | rfl | hn
    · simp only [List.foldl_cons, pstep_skip _ _ _ hs, escapesFrom, hs, ↓reduceIte]
      exact ih ns k hns
    · have hd : ¬ (dotdot = [] ∨ dotdot = [dot]) := by decide
      rw [List.foldl_cons, pstep_dotdot false ns k hns]
      cases ns with
      | nil =>
        simp only [Bool.false_eq_true, false_and, ↓reduceIte, List.length_nil, escapesFrom, hd, or_true, iff_true]
        have := ih [] (k + 1) nil_normal
        simp only [List.nil_append] at this
        exact this.mpr (Or.inl (by omega))
      | cons t ns' =>
        simp only [List.length_cons, escapesFrom, hd, ↓reduceIte]
        exact ih ns' k (fun x hx => hns x (List.mem_cons_of_mem _ hx))
    · have h1 : ¬ (e = [] ∨ e = [dot]) := by
        rintro (h | h)
        · exact hn.1 h
        · exact hn.2.1 h
      rw [List.foldl_cons, pstep_normal _ _ _ hn]
      simp only [escapesFrom, h1, ↓reduceIte, hn.2.2]
      simpa using ih (e :: ns) k (List.forall_mem_cons.mpr ⟨hn, hns⟩)

theorem split_head (a t : Bytes) (ha : slash ∉ a) (ht : t = [] ∨ t.head? = some slash) :
    (split slash (a ++ t)).head? = some a := by
  rcases ht with rfl | ht
  · rw [List.append_nil, split_no_sep slash a ha]; rfl
  · cases t with
    | nil => cases ht
    | cons y t => cases ht; rw [split_append_sep slash a t ha]; rfl

theorem starts_dotdot_iff (a t : Bytes) (ha : slash ∉ a) (ht : t = [] ∨ t.head? = some slash) :
    (a ++ t = dotdot ∨ dotdotSlash.isPrefixOf (a ++ t) = true) ↔ a = dotdot := by
  constructor
  · intro h
    have hd : (split slash (a ++ t)).head? = some dotdot := by
      rcases h with h | h
      · rw [h]; rfl
      · obtain ⟨r, hr⟩ := List.isPrefixOf_iff_prefix.mp h
        rw [← hr]
        exact split_head dotdot (slash :: r) (by decide) (Or.inr rfl)
    rw [split_head a t ha ht] at hd
    exact Option.some.inj hd
  · rintro rfl
    rcases ht with rfl | ht
    · exact Or.inl rfl
    · cases t with
      | nil => cases ht
      | cons y t => cases ht; exact Or.inr (List.isPrefixOf_iff_prefix.mpr ⟨t, rfl⟩)

/-- `repoSourcePath` rejects exactly the results that start with a `..` element -/
theorem rejected_iff (ns : List Bytes) (k : Nat) (hns : ∀ e ∈ ns, Normal e)
    (hsl : ∀ e ∈ ns ++ List.replicate k dotdot, slash ∉ e) :
    (render false (ns ++ List.replicate k dotdot) = dotdot ∨
      dotdotSlash.isPrefixOf (render false (ns ++ List.replicate k dotdot)) = true) ↔ k > 0 := by
  have hrev : (ns ++ List.replicate k dotdot).reverse = List.replicate k dotdot ++ ns.reverse := by
    rw [List.reverse_append, List.reverse_replicate]
  cases hr : (ns ++ List.replicate k dotdot).reverse with
  | nil =>
    have hk : k = 0 := by
      rw [hrev] at hr
      cases k with
      | zero => rfl
      | succ k => cases hr
    rw [List.reverse_eq_nil_iff.mp hr, hk]
    decide
  | cons a cs =>
    have hne : ∀ e ∈ a :: cs, e ≠ [] ∧ slash ∉ e := fun e he =>
      have he' := List.mem_reverse.mp (hr ▸ he)
      ⟨normal_of_stack hns e he', hsl e he'⟩
    have hj := join_head_of (a :: cs) (List.cons_ne_nil _ _) hne
    obtain ⟨t, ht, htl⟩ := join_first slash a cs
    have hrender : render false (ns ++ List.replicate k dotdot) = a ++ t := by
      simp only [render, Bool.false_eq_true, ↓reduceIte, hr, ht, ht ▸ hj.1]
    rw [hrender, starts_dotdot_iff a t (hne a List.mem_cons_self).2 htl]
    rw [hrev] at hr
    cases k with
    | zero =>
      have : a ∈ ns := List.mem_reverse.mp (by rw [List.replicate_zero, List.nil_append] at hr; rw [hr]; exact List.mem_cons_self)
      exact ⟨fun h => absurd (h ▸ hns a this) dotdot_not_normal, fun h => absurd h (Nat.lt_irrefl 0)⟩
    | succ k =>
      rw [List.replicate_succ, List.cons_append] at hr
      exact ⟨fun _ => Nat.succ_pos k, fun _ => (List.cons.inj hr).1.symm⟩


theorem rejected_iff_escapes (x : Bytes) (hx : decide (x.head? = some slash) = false) :
    (pathClean x = dotdot ∨ dotdotSlash.isPrefixOf (pathClean x) = true) ↔ escapesFrom 0 (split slash x) = true := by
  obtain ⟨⟨ns, k, hst, hns, _⟩, hsl⟩ := pathStack_ok x
  rw [pathClean_eq, hx, hst, rejected_iff ns k hns (hst ▸ hsl), ← dotdot_mem_stack ns k hns, ← hst, pathStack, hx]
  have h := esc_fold (split slash x) [] 0 nil_normal
  simpa using h

/-- the elements of `path.Clean(p)`, in order -/
def pathComps (p : Bytes) : List Bytes := (pathStack p).reverse

theorem split_render_plain (r : Bool) (ns : List Bytes) (hns : ∀ e ∈ ns, Normal e) (hsl : ∀ e ∈ ns, slash ∉ e) :
    ∀ e ∈ split slash (render r ns), (e = [] ∨ e = [dot]) ∨ Normal e := by
  have hbody : ∀ e ∈ split slash (join slash ns.reverse), (e = [] ∨ e = [dot]) ∨ Normal e := by
    by_cases hnil : ns = []
    · subst hnil
      exact fun e he => Or.inl (Or.inl (List.mem_singleton.mp he))
    · rw [split_join ns.reverse (fun e he => hsl e (List.mem_reverse.mp he)) (fun h => hnil (List.reverse_eq_nil_iff.mp h))]
      exact fun e he => Or.inr (hns e (List.mem_reverse.mp he))
  intro e he
  unfold render at he
  cases r with
  | true =>
    rw [if_pos rfl, split_cons_sep] at he
    exact (List.mem_cons.mp he).elim (fun h => Or.inl (Or.inl h)) (hbody e)
  | false =>
    rw [if_neg Bool.false_ne_true] at he
    split at he
    · exact Or.inl (Or.inr (List.mem_singleton.mp he))
    · exact hbody e he

/-- the verdict of `repoSourcePath` on a cleaned path -/
def rspCheck (q : Bytes) : Out Bytes :=
  if q = dotdot ∨ dotdotSlash.isPrefixOf q = true then .err .outsideRoot else .ok q

theorem rspCheck_returns (q : Bytes) : (rspCheck q).returns = true := by
  unfold rspCheck; split <;> rfl

theorem accepted_confined {x q : Bytes} (h : rspCheck (pathClean x) = .ok q) :
    dotdot ∉ split slash q ∧
    ∀ root, pathIsAbs root = true → pathComps root <+: pathComps (root ++ slash :: q) := by
  unfold rspCheck at h
  split at h
  · cases h
  rename_i hacc
  cases h
  obtain ⟨hok, hsl⟩ := pathStack_ok x
  obtain ⟨ns, k, hst, hns, hk⟩ := hok
  rw [pathClean_eq] at hacc ⊢
  rw [hst] at hacc hsl ⊢
  have hk0 : k = 0 := by
    cases hr : decide (x.head? = some slash) with
    | true => exact hk hr
    | false =>
      rw [hr] at hacc
      have : ¬ k > 0 := fun h => hacc ((rejected_iff ns k hns hsl).mpr h)
      omega
  subst hk0
  simp only [List.replicate_zero, List.append_nil] at hacc hsl ⊢
  have hplain := split_render_plain (decide (x.head? = some slash)) ns hns hsl
  constructor
  · intro hm
    rcases hplain dotdot hm with (h | h) | h
    · revert h; decide
    · revert h; decide
    · exact dotdot_not_normal h
  · intro root hroot
    have hne : root ≠ [] := by intro h; subst h; simp [pathIsAbs] at hroot
    have hhead : (root ++ slash :: render (decide (x.head? = some slash)) ns).head? = root.head? := by
      cases root with
      | nil => exact absurd rfl hne
      | cons b t => rfl
    unfold pathComps pathStack
    rw [hhead, split_append, List.foldl_append]
    exact List.reverse_prefix.mpr (fold_suffix _ _ hplain _)

theorem pathJoin_two (a b : Bytes) (hb : b ≠ []) : pathJoin [a, b] = pathClean (joinBuf [] [a, b]) := by
  unfold pathJoin
  have : ¬ ((List.map List.length [a, b]).sum = 0) := by
    cases b with
    | nil => exact absurd rfl hb
    | cons x b => simp
  simp only [this, ↓reduceIte]

/-- `repoSourcePath` by cases: an absolute path is cleaned; a relative one is joined to what follows the `//` of the
package, and taking that is a panic when the package is shorter -/
theorem rsp_eq (pkg sp : Bytes) (hsp : sp ≠ []) :
    repoSourcePathGo pkg sp =
      if pathIsAbs sp then rspCheck (pathClean sp)
      else if 2 ≤ pkg.length then rspCheck (pathClean (joinBuf [] [pkg.drop 2, sp])) else .panic := by
  unfold repoSourcePathGo rspCheck
  cases pathIsAbs sp with
  | true => simp only [hsp, ↓reduceIte, Bool.not_true, Bool.false_eq_true, Out.ok_bind]
  | false =>
    by_cases hlen : 2 ≤ pkg.length
    · -- Go cleans `path.Join(pkg[2:], sp)`, which `path.Join` has cleaned already
      have hjoin : pathClean (pathJoin [pkg.drop 2, sp]) = pathClean (joinBuf [] [pkg.drop 2, sp]) := by
        rw [pathJoin_two _ _ hsp, pathClean_idem]
      simp only [hsp, ↓reduceIte, Bool.not_false, slice_to_end hlen, Out.ok_bind, hjoin, hlen, Bool.false_eq_true]
    · have : slice pkg 2 pkg.length = .panic := if_neg fun h => hlen h.1
      simp only [hsp, ↓reduceIte, Bool.not_false, this, Out.panic_bind, hlen, Bool.false_eq_true]

theorem joinBuf_two (a b : Bytes) (hb : b ≠ []) :
    joinBuf [] [a, b] = if a = [] then b else a ++ slash :: b := by
  by_cases ha : a = []
  · subst ha; simp [joinBuf, hb]
  · simp [joinBuf, ha]

theorem mem_split_sub (sep : UInt8) (l : Bytes) : ∀ e ∈ split sep l, ∀ b ∈ e, b ∈ l := by
  induction l with
  | nil => intro e he b hb; simp [split] at he; subst he; cases hb
  | cons c rest ih =>
    obtain ⟨h, t, hs⟩ := split_ne_nil sep rest
    intro e he b hb
    by_cases hc : c = sep
    · subst hc
      rw [split_cons_sep] at he
      rcases List.mem_cons.mp he with rfl | he'
      · cases hb
      · exact List.mem_cons_of_mem _ (ih e he' b hb)
    · rw [split_cons_ne hc hs] at he
      rcases List.mem_cons.mp he with rfl | he'
      · rcases List.mem_cons.mp hb with rfl | hb'
        · exact List.mem_cons_self
        · exact List.mem_cons_of_mem _ (ih h (by rw [hs]; exact List.mem_cons_self) b hb')
      · exact List.mem_cons_of_mem _ (ih e (by rw [hs]; exact List.mem_cons_of_mem _ he') b hb)

theorem mem_pathClean (p : Bytes) (b : UInt8) (hb : b ∈ pathClean p) : b ∈ p ∨ b = dot ∨ b = slash := by
  rw [pathClean_eq] at hb
  -- an element of the stack is an element of the input
  have hjoin : ∀ x ∈ join slash (pathStack p).reverse, x ∈ p ∨ x = dot ∨ x = slash := fun x hx =>
    (mem_join slash _ x hx).elim (fun h => Or.inr (Or.inr h)) fun ⟨e, he, hxe⟩ =>
      Or.inl (mem_split_sub slash p e ((mem_fold _ _ _ _ (List.mem_reverse.mp he)).resolve_left List.not_mem_nil) x hxe)
  unfold render at hb
  simp only at hb
  split at hb
  · rcases List.mem_cons.mp hb with h | h
    · exact Or.inr (Or.inr h)
    · exact hjoin b h
  · split at hb
    · simp only [List.mem_singleton] at hb; exact Or.inr (Or.inl hb)
    · exact hjoin b hb


/-- `sourceLabel` after `repoSourcePath`: the cut at the last `/` never panics -/
theorem sourceLabelGo_eq (pkg sp : Bytes) :
    sourceLabelGo pkg sp = (repoSourcePathGo pkg sp).bind fun q =>
      match lastIndexByte slash q with
      | some ls => newGo sourceKind [] ([slash, slash] ++ q.take ls) (q.drop (ls + 1))
      | none => newGo sourceKind [] [slash, slash] q := by
  unfold sourceLabelGo
  congr 1
  funext q
  cases hl : lastIndexByte slash q with
  | none => rfl
  | some ls =>
    have hlt := (lastIndexByte_some hl).1
    simp only [slice_zero (Nat.le_of_lt hlt), slice_to_end (Nat.succ_le_of_lt hlt), Out.ok_bind]

end Dawn.Label
