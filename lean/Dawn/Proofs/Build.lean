import Dawn.Model.Build
/-! Lemmas about the incremental-engine model itself: effects and step lists, what an execution performs, what `plan`
decides, the ways a visit ends (`Visited`), dry runs, crash prefixes, loads and collections. The invariants built on them
start in `Dawn/Proofs/BuildInv.lean`. -/
namespace Dawn.Build

variable {P : Params} {t : Tree} {o : Opts}

@[simp] theorem applySteps_nil (w : World) : applySteps w [] = w := rfl
@[simp] theorem applySteps_cons (w : World) (s : Step) (ss : List Step) :
    applySteps w (s :: ss) = applySteps (s.apply w) ss := rfl
theorem applySteps_append (w : World) (a b : List Step) :
    applySteps w (a ++ b) = applySteps (applySteps w a) b := List.foldl_append ..

@[simp] theorem apply_noEff (w : World) (h : Hook) (l : Label) : Step.apply w ⟨none, h, l⟩ = w := rfl

theorem upd_upd {α} (f : Nat → α) (k : Nat) (a b : α) : upd (upd f k a) k b = upd f k b := by
  funext x; by_cases h : x = k <;> simp [upd, h]

theorem Step.apply_files (st : Step) (w : World) (p : Path) (h : ∀ c, st.eff ≠ some (.genWrite p c)) :
    (st.apply w).files p = w.files p := by
  unfold Step.apply
  cases he : st.eff with
  | none => rfl
  | some e =>
    cases e with
    | genWrite g c => exact upd_other _ _ _ _ fun e' => h c (by rw [he, e'])
    | _ => rfl

theorem Step.apply_recs (st : Step) (w : World) (y : Label) (h : ∀ r, st.eff ≠ some (.tempRename y r)) :
    (st.apply w).recs y = w.recs y := by
  unfold Step.apply
  cases he : st.eff with
  | none => rfl
  | some e =>
    cases e with
    | tempRename l r => exact upd_other _ _ _ _ fun e' => h r (by rw [he, e'])
    | _ => rfl

theorem applySteps_files (ss : List Step) (w : World) (p : Path) (h : ∀ st ∈ ss, ∀ c, st.eff ≠ some (.genWrite p c)) :
    (applySteps w ss).files p = w.files p := by
  induction ss generalizing w with
  | nil => rfl
  | cons st rest ih =>
    rw [applySteps_cons, ih _ fun x hx => h x (List.mem_cons_of_mem _ hx), st.apply_files w p (h st List.mem_cons_self)]

theorem applySteps_recs_other (ss : List Step) (w : World) (y : Label) (h : ∀ st ∈ ss, ∀ r, st.eff ≠ some (.tempRename y r)) :
    (applySteps w ss).recs y = w.recs y := by
  induction ss generalizing w with
  | nil => rfl
  | cons st rest ih =>
    rw [applySteps_cons, ih _ fun x hx => h x (List.mem_cons_of_mem _ hx), st.apply_recs w y (h st List.mem_cons_self)]

theorem applySteps_recs_congr (ss : List Step) (a b : World) (h : a.recs = b.recs) : (applySteps a ss).recs = (applySteps b ss).recs := by
  induction ss generalizing a b with
  | nil => exact h
  | cons st rest ih =>
    refine ih _ _ ?_
    unfold Step.apply
    cases st.eff with
    | none => exact h
    | some e => cases e <;> simp [Eff.apply, h]

/-- the records some step of a list installs -/
def installs (ss : List Step) (l : Label) (r : Rec) : Prop :=
  ∃ s ∈ ss, s.eff = some (.tempRename l r)

theorem applySteps_recs (w : World) (ss : List Step) (l : Label) :
    (applySteps w ss).recs l = w.recs l ∨ ∃ r, (applySteps w ss).recs l = some r ∧ installs ss l r := by
  induction ss generalizing w with
  | nil => exact Or.inl rfl
  | cons s rest ih =>
    rcases ih (s.apply w) with h | ⟨r, h, s', hs', he⟩
    · by_cases hs : ∃ r, s.eff = some (.tempRename l r)
      · obtain ⟨r, hs⟩ := hs
        exact Or.inr ⟨r, by rw [applySteps_cons, h]; simp [Step.apply, hs, Eff.apply], s, List.mem_cons_self, hs⟩
      · exact Or.inl (h.trans (s.apply_recs w l fun r e => hs ⟨r, e⟩))
    · exact Or.inr ⟨r, h, s', List.mem_cons_of_mem _ hs', he⟩

theorem applySteps_save (w : World) (l : Label) (r : Rec) :
    applySteps w (saveSteps l r) = { w with recs := upd w.recs l (some r) } := by
  simp [saveSteps, Step.apply, Eff.apply]

theorem mem_saveSteps {st : Step} {l : Label} {r : Rec} (h : st ∈ saveSteps l r) :
    st.eff = some .tempCreate ∨ st.eff = some .tempWrite ∨ st.eff = some (.tempRename l r) := by
  simp only [saveSteps, List.mem_cons, List.not_mem_nil, or_false] at h
  rcases h with rfl | rfl | rfl <;> simp

def writeAll (files : Path → SrcVal) : List (Path × Nat) → Path → SrcVal
  | [] => files
  | gc :: rest => writeAll (upd files gc.1 (.file gc.2)) rest

theorem writeAll_not_mem (files : Path → SrcVal) (ws : List (Path × Nat)) (p : Path)
    (h : ∀ gc ∈ ws, gc.1 ≠ p) : writeAll files ws p = files p := by
  induction ws generalizing files with
  | nil => rfl
  | cons gc rest ih =>
    rw [writeAll, ih _ fun x hx => h x (List.mem_cons_of_mem _ hx)]
    exact upd_other _ _ _ _ fun e => h gc List.mem_cons_self e.symm

theorem writeAll_mem (files : Path → SrcVal) (ws : List (Path × Nat)) (g : Path) (c : Nat)
    (hnd : (ws.map (·.1)).Nodup) (h : (g, c) ∈ ws) : writeAll files ws g = .file c := by
  induction ws generalizing files with
  | nil => cases h
  | cons gc rest ih =>
    simp only [List.map_cons, List.nodup_cons] at hnd
    rcases List.mem_cons.mp h with e | e
    · subst e
      rw [writeAll, writeAll_not_mem, upd_same]
      intro x hx e; exact hnd.1 (e ▸ List.mem_map_of_mem (f := (·.1)) hx)
    · exact ih _ hnd.2 e

/-- the steps of a body that writes `ws`, up to the hook `fin` that precedes the saving of its record -/
def bodySteps (l : Label) (ws : List (Path × Nat)) (fin : Hook) : List Step :=
  ⟨none, .bodyBefore, l⟩ :: (ws.map fun gc => Step.mk (some (.genWrite gc.1 gc.2)) .bodyWrote l) ++
    [⟨none, .bodyAfter, l⟩, ⟨none, fin, l⟩]

theorem applySteps_body (w : World) (l : Label) (ws : List (Path × Nat)) (fin : Hook) :
    applySteps w (bodySteps l ws fin) = { w with files := writeAll w.files ws } := by
  have writes : ∀ (ws : List (Path × Nat)) (w : World),
      applySteps w (ws.map fun gc => Step.mk (some (.genWrite gc.1 gc.2)) .bodyWrote l) = { w with files := writeAll w.files ws } := by
    intro ws
    induction ws with
    | nil => intro w; rfl
    | cons gc rest ih => intro w; simp [Step.apply, Eff.apply, ih, writeAll]
  simp [bodySteps, applySteps_append, writes]

theorem mem_bodySteps {st : Step} {l : Label} {ws : List (Path × Nat)} {fin : Hook} (h : st ∈ bodySteps l ws fin) :
    st.eff = none ∨ ∃ gc ∈ ws, st.eff = some (.genWrite gc.1 gc.2) := by
  simp only [bodySteps, List.mem_cons, List.mem_append, List.mem_map, List.not_mem_nil, or_false] at h
  rcases h with (rfl | ⟨gc, hgc, rfl⟩) | rfl | rfl
  · exact Or.inl rfl
  · exact Or.inr ⟨gc, hgc, rfl⟩
  · exact Or.inl rfl
  · exact Or.inl rfl

def garbageWrites (d : Def) : List (Path × Nat) :=
  match d.gens with
  | g :: _ => [(g, 0)]
  | [] => []

def execWrites (P : Params) (t : Tree) (o : Opts) (w : World) (l : Label) (d : Def) : List (Path × Nat) :=
  match d.kind with
  | .src => []
  | .fn => if o.fails l then garbageWrites d else bodyWrites P t w l d

/-- the in-progress marker a function target's record gets before its body runs (D18 repair) -/
def markSteps (P : Params) (l : Label) (d : Def) (info : Rec) : List Step :=
  if d.kind = .fn ∧ P.marker = true then saveSteps l { info with rerun := true } else []

theorem execSteps_steps (P : Params) (t : Tree) (o : Opts) (w : World) (l : Label) (d : Def) (info : Rec)
    (dd : List (Label × Stamp)) :
    ∃ fin, (execSteps P t o w l d info dd).1 =
      markSteps P l d info ++ (bodySteps l (execWrites P t o w l d) fin ++ saveSteps l (execSteps P t o w l d info dd).2.1) := by
  unfold execSteps execWrites markSteps bodySteps garbageWrites
  cases d.kind with
  | src => exact ⟨.recordSuccess, rfl⟩
  | fn =>
    cases o.fails l with
    | true => refine ⟨.recordFailure, ?_⟩; cases d.gens <;> cases P.marker <;> rfl
    | false => refine ⟨.recordSuccess, ?_⟩; cases P.marker <;> simp

theorem execSteps_cases (P : Params) (t : Tree) (o : Opts) (w : World) (l : Label) (d : Def) (info : Rec)
    (dd : List (Label × Stamp)) :
    (d.kind = .src ∧ execWrites P t o w l d = [] ∧
      (execSteps P t o w l d info dd).2.1 = ⟨dd, srcData P (w.files d.path), false, info.runs, none⟩ ∧
      (execSteps P t o w l d info dd).2.2 = true) ∨
    (d.kind = .fn ∧ o.fails l = true ∧ execWrites P t o w l d = garbageWrites d ∧
      (execSteps P t o w l d info dd).2.1 = ⟨dd, .empty, true, info.runs, none⟩ ∧
      (execSteps P t o w l d info dd).2.2 = false) ∨
    (d.kind = .fn ∧ o.fails l = false ∧ execWrites P t o w l d = bodyWrites P t w l d ∧
      (execSteps P t o w l d info dd).2.1 = ⟨dd, .env d.env, false, info.runs + 1, some (attrsOf d)⟩ ∧
      (execSteps P t o w l d info dd).2.2 = true) := by
  unfold execSteps execWrites
  cases d.kind with
  | src => exact Or.inl ⟨rfl, rfl, rfl, rfl⟩
  | fn =>
    cases hf : o.fails l with
    | true => exact Or.inr (Or.inl ⟨rfl, rfl, rfl, rfl, rfl⟩)
    | false => exact Or.inr (Or.inr ⟨rfl, rfl, rfl, rfl, rfl⟩)

theorem applySteps_exec (P : Params) (t : Tree) (o : Opts) (w : World) (l : Label) (d : Def) (info : Rec)
    (dd : List (Label × Stamp)) :
    applySteps w (execSteps P t o w l d info dd).1 =
      { w with files := writeAll w.files (execWrites P t o w l d),
               recs := upd w.recs l (some (execSteps P t o w l d info dd).2.1) } := by
  obtain ⟨fin, h⟩ := execSteps_steps P t o w l d info dd
  rw [h, applySteps_append, applySteps_append, applySteps_body, applySteps_save]
  unfold markSteps
  split
  · simp [applySteps_save, upd_upd]
  · rfl

theorem execWrites_gens {w : World} {l : Label} {d : Def} {gc : Path × Nat}
    (h : gc ∈ execWrites P t o w l d) : d.kind = .fn ∧ gc.1 ∈ d.gens := by
  unfold execWrites at h
  cases hk : d.kind with
  | src => simp [hk] at h
  | fn =>
    refine ⟨rfl, ?_⟩
    simp only [hk] at h
    split at h
    · unfold garbageWrites at h
      split at h
      · rename_i hg; rw [hg, List.mem_singleton.mp h]; exact List.mem_cons_self
      · cases h
    · simp only [bodyWrites, List.mem_map] at h
      obtain ⟨g, hg, rfl⟩ := h
      exact hg

theorem execSteps_eff {w : World} {l : Label} {d : Def} {info : Rec}
    {dd : List (Label × Stamp)} {st : Step} (h : st ∈ (execSteps P t o w l d info dd).1) :
    (∀ y r, st.eff = some (.tempRename y r) → y = l) ∧ (∀ g c, st.eff = some (.genWrite g c) → d.kind = .fn ∧ g ∈ d.gens) := by
  obtain ⟨fin, hs⟩ := execSteps_steps P t o w l d info dd
  have save : ∀ r, st ∈ saveSteps l r →
      (∀ y r, st.eff = some (.tempRename y r) → y = l) ∧ (∀ g c, st.eff = some (.genWrite g c) → d.kind = .fn ∧ g ∈ d.gens) := by
    intro r hm
    rcases mem_saveSteps hm with e | e | e <;> simp [e]
  rw [hs] at h
  simp only [List.mem_append] at h
  rcases h with h | h | h
  · unfold markSteps at h
    split at h
    · exact save _ h
    · cases h
  · rcases mem_bodySteps h with e | ⟨gc, hgc, e⟩
    · simp [e]
    · refine ⟨by simp [e], fun g c hg => ?_⟩
      rw [e] at hg
      cases hg
      exact execWrites_gens hgc
  · exact save _ h

def DepsOk (t : Tree) (s : BSt) (l : Label) (d : Def) : Prop :=
  ∀ y ∈ depsOf t l d, ∃ m, s.memo y = some m ∧ m.ok = true

/-- the stamps a new record lists -/
def depData (t : Tree) (s : BSt) (l : Label) (d : Def) : List (Label × Stamp) :=
  (depsOf t l d).map fun x => (x, memoData s x)

/-- the skip test of `plan`, as a function -/
def skipTest (P : Params) (t : Tree) (o : Opts) (s : BSt) (l : Label) (d : Def) : Bool :=
  let info := loadedInfo s.w l d
  !o.always && (((depsOf t l d).all fun x =>
      match info.deps.lookup x, s.memo x with
      | some st, some m => !m.changed && st == m.data
      | _, _ => false) && (!P.depCount || info.deps.length == (depsOf t l d).length) && attrsOK P d info) &&
    upToDate P s.w d info && !info.rerun

structure SkipOK (P : Params) (t : Tree) (o : Opts) (s : BSt) (l : Label) (d : Def) : Prop where
  always : o.always = false
  deps : ∀ y ∈ depsOf t l d, ∃ m, s.memo y = some m ∧ m.changed = false ∧ (loadedInfo s.w l d).deps.lookup y = some m.data
  len : (!P.depCount || (loadedInfo s.w l d).deps.length == (depsOf t l d).length) = true
  attrs : attrsOK P d (loadedInfo s.w l d) = true
  upToDate : upToDate P s.w d (loadedInfo s.w l d) = true
  rerun : (loadedInfo s.w l d).rerun = false

theorem skipTest_iff {s : BSt} {l : Label} {d : Def} :
    skipTest P t o s l d = true ↔ SkipOK P t o s l d := by
  have dep : ∀ y, (match (loadedInfo s.w l d).deps.lookup y, s.memo y with
        | some st, some m => !m.changed && st == m.data
        | _, _ => false) = true ↔
      ∃ m, s.memo y = some m ∧ m.changed = false ∧ (loadedInfo s.w l d).deps.lookup y = some m.data := by
    intro y
    cases s.memo y with
    | none => simp
    | some m =>
      cases (loadedInfo s.w l d).deps.lookup y with
      | none => simp
      | some st =>
        simp only [Bool.and_eq_true, Bool.not_eq_eq_eq_not, Bool.not_true, beq_iff_eq, Option.some.injEq]
        exact ⟨fun h => ⟨m, rfl, h⟩, fun ⟨_, e, h⟩ => e ▸ h⟩
  simp only [skipTest, Bool.and_eq_true, Bool.not_eq_eq_eq_not, Bool.not_true, List.all_eq_true, dep]
  exact ⟨fun ⟨⟨⟨h1, ⟨h2, h3⟩, h4⟩, h5⟩, h6⟩ => ⟨h1, h2, h3, h4, h5, h6⟩, fun h => ⟨⟨⟨h.always, ⟨h.deps, h.len⟩, h.attrs⟩, h.upToDate⟩, h.rerun⟩⟩

theorem plan_of_depsOk {s : BSt} {l : Label} {d : Def} (hok : DepsOk t s l d) :
    plan P t o s l d =
      if skipTest P t o s l d then .skip (loadedInfo s.w l d)
      else if o.dry then .dry (loadedInfo s.w l d)
      else .run (loadedInfo s.w l d) (depData t s l d) := by
  unfold plan skipTest
  simp only
  split
  · rename_i x hx
    obtain ⟨m, hm, hmok⟩ := hok x (List.mem_of_find?_eq_some hx)
    exact absurd (List.find?_some hx) (by simp [hm, hmok])
  · rfl

theorem plan_depFailed {s : BSt} {l : Label} {d : Def} (h : ¬ DepsOk t s l d) :
    ∃ rep, plan P t o s l d = .depFailed rep := by
  unfold plan
  simp only
  split
  · exact ⟨_, rfl⟩
  · rename_i hnone
    refine absurd (fun x hx => ?_) h
    have := List.find?_eq_none.mp hnone x hx
    cases hm : s.memo x with
    | none => simp [hm] at this
    | some m => exact ⟨m, rfl, by simpa [hm] using this⟩

theorem plan_skip_iff {s : BSt} {l : Label} {d : Def} {info : Rec} :
    plan P t o s l d = .skip info ↔ DepsOk t s l d ∧ SkipOK P t o s l d ∧ info = loadedInfo s.w l d := by
  by_cases hok : DepsOk t s l d
  · rw [plan_of_depsOk hok, ← skipTest_iff]
    cases skipTest P t o s l d with
    | true => exact ⟨fun h => ⟨hok, rfl, (Plan.skip.inj h).symm⟩, fun h => by rw [h.2.2]; rfl⟩
    | false => cases o.dry <;> simp
  · obtain ⟨rep, h⟩ := plan_depFailed (P := P) (o := o) hok
    simp [h, hok]

theorem upToDate_files (P : Params) {w w' : World} (d : Def) (info : Rec)
    (hp : d.kind = .src → w'.files d.path = w.files d.path) (hg : d.kind = .fn → ∀ g ∈ d.gens, w'.files g = w.files g) :
    upToDate P w' d info = upToDate P w d info := by
  unfold upToDate
  cases hk : d.kind with
  | src => simp only [hp hk]
  | fn =>
    have : (d.gens.all fun g => w'.files g != .missing) = (d.gens.all fun g => w.files g != .missing) := by
      rw [Bool.eq_iff_iff, List.all_eq_true, List.all_eq_true]
      exact forall₂_congr fun g hgm => by rw [hg hk g hgm]
    simp only [this]

theorem observe_files {t t' : Tree} {w w' : World} (x : Label) (hdef : t'.defs x = t.defs x)
    (h : ∀ dx, t.defs x = some dx → (dx.kind = .src → w'.files dx.path = w.files dx.path) ∧
      (dx.kind = .fn → ∀ g ∈ dx.gens, w'.files g = w.files g)) : observe t' w' x = observe t w x := by
  unfold observe
  rw [hdef]
  cases hd : t.defs x with
  | none => rfl
  | some dx =>
    cases hk : dx.kind with
    | src => simp only [hk]; rw [(h dx hd).1 hk]
    | fn => simp only [hk]; exact List.map_congr_left fun g hg => by rw [(h dx hd).2 hk g hg]

theorem out_congr (P : Params) (l : Label) (e : Env) (a : Attrs) (g : Path) {xs : List Label}
    {f f' : Label → List (Path × SrcVal)} (h : ∀ x ∈ xs, f x = f' x) :
    P.out l e a (xs.map fun x => (x, f x)) g = P.out l e a (xs.map fun x => (x, f' x)) g :=
  congrArg (P.out l e a · g) (List.map_congr_left fun x hx => by rw [h x hx])

/-- the steps of one visit -/
def visitSteps (P : Params) (t : Tree) (o : Opts) (s : BSt) (l : Label) : List Step :=
  match t.defs l with
  | none => []
  | some d => match plan P t o s l d with
    | .run info dd => (execSteps P t o s.w l d info dd).1
    | _ => []

/-- the steps of a build, in the order they happen -/
def buildSteps (P : Params) (t : Tree) (o : Opts) : BSt → List Label → List Step
  | _, [] => []
  | s, l :: rest => visitSteps P t o s l ++ buildSteps P t o (visit P t o s l) rest

/-- `Evaluate` by case: the steps a visit of `l` performs and the state it leaves. Nothing but an execution has steps. -/
inductive Visited (P : Params) (t : Tree) (o : Opts) (s : BSt) (l : Label) : List Step → BSt → Prop
  | undefined (hd : t.defs l = none) :
      Visited P t o s l [] { s with memo := upd s.memo l (some (failedRes true)) }
  | depFailed (d : Def) (hd : t.defs l = some d) (hno : ¬ DepsOk t s l d) (report : Bool) :
      Visited P t o s l [] { s with memo := upd s.memo l (some (failedRes false)),
                                    evs := if report then .failed l :: s.evs else s.evs }
  | skip (d : Def) (hd : t.defs l = some d) (hok : DepsOk t s l d) (hc : SkipOK P t o s l d) :
      Visited P t o s l [] { s with memo := upd s.memo l (some ⟨true, false, stampOf P (loadedInfo s.w l d), false⟩),
                                    evs := .upToDate l :: s.evs }
  | dry (d : Def) (hd : t.defs l = some d) (hok : DepsOk t s l d) (hc : ¬ SkipOK P t o s l d) (hdry : o.dry = true) :
      Visited P t o s l [] { s with memo := upd s.memo l (some ⟨true, true, stampOf P (loadedInfo s.w l d), false⟩),
                                    evs := .succeeded l :: .evaluating l :: s.evs }
  | run (d : Def) (hd : t.defs l = some d) (hok : DepsOk t s l d) (hc : ¬ SkipOK P t o s l d) (hdry : o.dry = false) :
      Visited P t o s l (execSteps P t o s.w l d (loadedInfo s.w l d) (depData t s l d)).1
        { w := applySteps s.w (execSteps P t o s.w l d (loadedInfo s.w l d) (depData t s l d)).1,
          memo := upd s.memo l (some (if (execSteps P t o s.w l d (loadedInfo s.w l d) (depData t s l d)).2.2
            then ⟨true, true, stampOf P (execSteps P t o s.w l d (loadedInfo s.w l d) (depData t s l d)).2.1, false⟩
            else failedRes false)),
          evs := (if (execSteps P t o s.w l d (loadedInfo s.w l d) (depData t s l d)).2.2 then .succeeded l else .failed l) ::
            .evaluating l :: s.evs,
          steps := (execSteps P t o s.w l d (loadedInfo s.w l d) (depData t s l d)).1.reverse ++ s.steps,
          execs := l :: s.execs }

theorem visit_cases (P : Params) (t : Tree) (o : Opts) (s : BSt) (l : Label) :
    Visited P t o s l (visitSteps P t o s l) (visit P t o s l) := by
  unfold visit visitSteps
  cases hd : t.defs l with
  | none => exact .undefined hd
  | some d =>
    by_cases hok : DepsOk t s l d
    · simp only [plan_of_depsOk hok]
      by_cases hc : SkipOK P t o s l d
      · rw [if_pos (skipTest_iff.mpr hc)]; exact .skip d hd hok hc
      · rw [if_neg (mt skipTest_iff.mp hc)]
        cases hdry : o.dry with
        | true => exact .dry d hd hok hc hdry
        | false => exact .run d hd hok hc hdry
    · obtain ⟨rep, hp⟩ := plan_depFailed (P := P) (o := o) hok
      simp only [hp]
      exact .depFailed d hd hok rep

/-- `visit_cases` in the form proofs use: name the result, then `cases` on how it came about -/
theorem visit_ends (P : Params) (t : Tree) (o : Opts) (s : BSt) (l : Label) :
    ∃ ss s', visitSteps P t o s l = ss ∧ visit P t o s l = s' ∧ Visited P t o s l ss s' :=
  ⟨_, _, rfl, rfl, visit_cases P t o s l⟩

theorem visit_skip {s : BSt} {l : Label} {d : Def} (hd : t.defs l = some d)
    (hok : DepsOk t s l d) (hs : SkipOK P t o s l d) :
    visit P t o s l = { s with memo := upd s.memo l (some ⟨true, false, stampOf P (loadedInfo s.w l d), false⟩),
                               evs := .upToDate l :: s.evs } := by
  simp only [visit, hd, plan_skip_iff.mpr ⟨hok, hs, rfl⟩]

theorem visit_dryRun {s : BSt} {l : Label} {d : Def} (hd : t.defs l = some d)
    (hok : DepsOk t s l d) (hs : ¬ SkipOK P t o s l d) (hdry : o.dry = true) :
    visit P t o s l = { s with memo := upd s.memo l (some ⟨true, true, stampOf P (loadedInfo s.w l d), false⟩),
                               evs := .succeeded l :: .evaluating l :: s.evs } := by
  simp only [visit, hd, plan_of_depsOk hok, if_neg (mt skipTest_iff.mp hs), hdry, if_true]

theorem visit_memo (P : Params) (t : Tree) (o : Opts) (s : BSt) (l : Label) :
    ∃ res, (visit P t o s l).memo = upd s.memo l (some res) := by
  obtain ⟨ss, s', -, hs', h⟩ := visit_ends P t o s l
  rw [hs']
  cases h <;> exact ⟨_, rfl⟩

theorem build_memo_dom (P : Params) (t : Tree) (o : Opts) (ord : List Label) (s : BSt) (x : Label)
    (h : (build P t o s ord).memo x ≠ none) : s.memo x ≠ none ∨ x ∈ ord := by
  induction ord generalizing s with
  | nil => exact Or.inl h
  | cons l rest ih =>
    rcases ih (visit P t o s l) h with h1 | h1
    · obtain ⟨res, hres⟩ := visit_memo P t o s l
      by_cases e : x = l
      · exact Or.inr (e ▸ List.mem_cons_self)
      · rw [hres, upd_other _ _ _ _ e] at h1; exact Or.inl h1
    · exact Or.inr (List.mem_cons_of_mem _ h1)

theorem visit_steps (P : Params) (t : Tree) (o : Opts) (s : BSt) (l : Label) :
    (visit P t o s l).steps = (visitSteps P t o s l).reverse ++ s.steps ∧
    (visit P t o s l).w = applySteps s.w (visitSteps P t o s l) := by
  obtain ⟨ss, s', hss, hs', h⟩ := visit_ends P t o s l
  rw [hss, hs']
  cases h <;> exact ⟨rfl, rfl⟩

theorem build_steps (P : Params) (t : Tree) (o : Opts) (ord : List Label) (s : BSt) :
    (build P t o s ord).steps.reverse = s.steps.reverse ++ buildSteps P t o s ord := by
  induction ord generalizing s with
  | nil => simp [build, buildSteps]
  | cons l rest ih => rw [build, buildSteps, ih, (visit_steps P t o s l).1]; simp

theorem crashBuild_eq (P : Params) (t : Tree) (o : Opts) (ord : List Label) (k : Nat) (w : World) :
    crashBuild P t o ord k w = applySteps (load t w) ((buildSteps P t o (BSt.init (load t w)) ord).take k) := by
  simp [crashBuild, build_steps, BSt.init]

theorem visitSteps_eff {s : BSt} {l : Label} {st : Step} (h : st ∈ visitSteps P t o s l) :
    (∀ y r, st.eff = some (.tempRename y r) → y = l) ∧
    (∀ g c, st.eff = some (.genWrite g c) → ∃ d, t.defs l = some d ∧ d.kind = .fn ∧ g ∈ d.gens) := by
  obtain ⟨ss, s', hss, -, hv⟩ := visit_ends P t o s l
  rw [hss] at h
  cases hv with
  | run d hd =>
    exact ⟨(execSteps_eff h).1, fun g c hg => ⟨d, hd, (execSteps_eff h).2 g c hg⟩⟩
  | _ => cases h

theorem visit_recs_other (P : Params) (t : Tree) (o : Opts) (s : BSt) {l y : Label} (hy : y ≠ l) :
    (visit P t o s l).w.recs y = s.w.recs y := by
  rw [(visit_steps P t o s l).2]
  exact applySteps_recs_other _ _ _ fun st hst r e => hy ((visitSteps_eff hst).1 y r e)

theorem visit_files_other (P : Params) (t : Tree) (o : Opts) (s : BSt) {l : Label} {p : Path}
    (hp : ∀ d, t.defs l = some d → d.kind = .fn → p ∉ d.gens) : (visit P t o s l).w.files p = s.w.files p := by
  rw [(visit_steps P t o s l).2]
  refine applySteps_files _ _ _ fun st hst c e => ?_
  obtain ⟨d, hd, hk, hg⟩ := (visitSteps_eff hst).2 p c e
  exact hp d hd hk hg

theorem visit_dry (P : Params) (t : Tree) (o : Opts) (s : BSt) (l : Label) (hd : o.dry = true) :
    (visit P t o s l).w = s.w ∧ (visit P t o s l).steps = s.steps ∧ (visit P t o s l).execs = s.execs := by
  obtain ⟨ss, s', -, hs', h⟩ := visit_ends P t o s l
  rw [hs']
  cases h with
  | run _ _ _ _ hdry => rw [hd] at hdry; cases hdry
  | _ => exact ⟨rfl, rfl, rfl⟩

theorem build_dry (P : Params) (t : Tree) (o : Opts) (hd : o.dry = true) (ord : List Label) (s : BSt) :
    (build P t o s ord).w = s.w ∧ (build P t o s ord).steps = s.steps ∧ (build P t o s ord).execs = s.execs := by
  induction ord generalizing s with
  | nil => exact ⟨rfl, rfl, rfl⟩
  | cons l rest ih =>
    obtain ⟨h1, h2, h3⟩ := visit_dry P t o s l hd
    obtain ⟨i1, i2, i3⟩ := ih (visit P t o s l)
    exact ⟨i1.trans h1, i2.trans h2, i3.trans h3⟩

theorem sweep_recs_live (live : List Label) (w : World) (l : Label) (h : l ∈ live) : (sweep live w).recs l = w.recs l := by
  simp [sweep, h]

theorem sweep_recs_dead (live : List Label) (w : World) (l : Label) (h : l ∉ live) : (sweep live w).recs l = none := by
  simp [sweep, h]

/-- a record up to "missing ≡ empty": what `loadTargetInfo` returns -/
def semRec (r : Option Rec) : Rec := r.getD emptyRec

/-- `function.load` reads the record up to "missing ≡ empty" and sets `Rerun` on `always` targets -/
theorem loadedInfo_eq (w : World) (l : Label) (d : Def) :
    loadedInfo w l d = { semRec (w.recs l) with rerun := (d.kind == .fn && d.always) || (semRec (w.recs l)).rerun } := by
  unfold loadedInfo semRec
  split <;> simp [*]

theorem loadedInfo_rerun_false {w : World} {l : Label} {d : Def} (h : (loadedInfo w l d).rerun = false) :
    loadedInfo w l d = semRec (w.recs l) := by
  rw [loadedInfo_eq] at h ⊢
  rw [(Bool.or_eq_false_iff.mp h).1, Bool.false_or]

theorem applySteps_refresh (w0 : World) (ss : List Step)
    (h : ∀ st ∈ ss, (∀ g c, st.eff ≠ some (.genWrite g c)) ∧ ∀ x r, st.eff = some (.tempRename x r) → r = semRec (w0.recs x))
    (w : World) (hw : ∀ x, semRec (w.recs x) = semRec (w0.recs x)) :
    (∀ x, semRec ((applySteps w ss).recs x) = semRec (w0.recs x)) ∧ (applySteps w ss).files = w.files := by
  refine ⟨?_, funext fun p => applySteps_files ss w p fun st hst c => (h st hst).1 p c⟩
  induction ss generalizing w with
  | nil => exact hw
  | cons st rest ih =>
    refine ih (fun x hx => h x (List.mem_cons_of_mem _ hx)) _ fun x => ?_
    by_cases hr : ∃ r, st.eff = some (.tempRename x r)
    · obtain ⟨r, hr⟩ := hr
      simp [Step.apply, hr, Eff.apply, semRec, (h st List.mem_cons_self).2 x r hr]
    · rw [st.apply_recs w x fun r e => hr ⟨r, e⟩]; exact hw x

theorem loadSteps_refresh (t : Tree) (w : World) :
    ∀ st ∈ loadSteps t w, (∀ g c, st.eff ≠ some (.genWrite g c)) ∧ ∀ x r, st.eff = some (.tempRename x r) → r = semRec (w.recs x) := by
  intro st hst
  simp only [loadSteps, List.mem_append, List.mem_flatMap, List.mem_cons, List.not_mem_nil, or_false] at hst
  rcases hst with ⟨x, _, hx⟩ | rfl | rfl
  · rcases mem_saveSteps hx with e | e | e <;> simp [e, semRec]
  · simp
  · simp

theorem load_sem (t : Tree) (w : World) (l : Label) :
    semRec ((load t w).recs l) = semRec (w.recs l) ∧ (load t w).files = w.files ∧ (load t w).index = .good t.labels := by
  obtain ⟨h1, h2⟩ := applySteps_refresh w _ (loadSteps_refresh t w) w fun _ => rfl
  refine ⟨h1 l, h2, ?_⟩
  simp [load, loadSteps, applySteps_append, Step.apply, Eff.apply]

/-- `p` is not generated by any live function target -/
def Plain (t : Tree) (p : Path) : Prop := ∀ l d, t.defs l = some d → d.kind = .fn → p ∉ d.gens

theorem build_plain (P : Params) (t : Tree) (o : Opts) (p : Path) (hp : Plain t p) (ord : List Label) (s : BSt) :
    (build P t o s ord).w.files p = s.w.files p := by
  induction ord generalizing s with
  | nil => rfl
  | cons l rest ih => rw [build, ih, visit_files_other P t o s fun d hd hk => hp l d hd hk]

theorem runBuild_plain (P : Params) (t : Tree) (o : Opts) (p : Path) (hp : Plain t p) (ord : List Label) (w : World) :
    (runBuild P t o ord w).w.files p = w.files p :=
  (build_plain P t o p hp ord _).trans (congrFun (load_sem t w 0).2.1 p)

theorem buildSteps_plain (P : Params) (t : Tree) (o : Opts) (ord : List Label) (s : BSt) :
    ∀ st ∈ buildSteps P t o s ord, ∀ g c, st.eff = some (.genWrite g c) → ¬ Plain t g := by
  induction ord generalizing s with
  | nil => intro st h; cases h
  | cons l rest ih =>
    intro st hst g c he hp
    rcases List.mem_append.mp hst with h | h
    · obtain ⟨d, hd, hk, hg⟩ := (visitSteps_eff h).2 g c he
      exact hp l d hd hk hg
    · exact ih _ st h g c he hp

theorem crashBuild_plain (P : Params) (t : Tree) (o : Opts) (ord : List Label) (k : Nat) (w : World) (p : Path) (hp : Plain t p) :
    (crashBuild P t o ord k w).files p = w.files p := by
  rw [crashBuild_eq, applySteps_files, congrFun (load_sem t w 0).2.1 p]
  exact fun st hst c he => buildSteps_plain P t o ord _ st (List.mem_of_mem_take hst) p c he hp

end Dawn.Build
