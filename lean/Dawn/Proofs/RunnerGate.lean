import Dawn.Proofs.RunnerDeadlock
/-!
# Runner: the gate at the level of `cond.Wait` / `cond.Signal`

`GState` refines `State` by who sleeps in `gate.enter` and in which order. Every `gstep` is a `step` of the core or
leaves the core unchanged, so the safety theorems transfer. A sleeper needs a `Signal`: deadlock freedom is proved
again here, from the invariant "while somebody sleeps, every free slot is matched by a thread that stands at the
gate awake" — which a gate that signals only when the first slot frees does not maintain.
-/
namespace Dawn.Runner

theorem gsignal_nil {g : GState} (h : g.gateQ = []) : gsignal g = g := by
  unfold gsignal; rw [h]

theorem gsignal_cons {g : GState} {w : Label} {q : List Label} (h : g.gateQ = w :: q) :
    gsignal g = { g with asleep := upd g.asleep w false, gateQ := q } := by
  unfold gsignal; rw [h]

theorem gsignal_core (g : GState) : (gsignal g).core = g.core := by
  cases h : g.gateQ with
  | nil => rw [gsignal_nil h]
  | cons w q => rw [gsignal_cons h]

/-- `gstepV` as a relation: thread `t` goes to sleep at the full gate, or takes its step `c` of the core — at the gate
    only awake and with a slot free — and signals when that step is an `exit`. -/
inductive GStep (onlyFirst : Bool) (P : Params) (g : GState) : Tid → GState → Prop where
  | sleep {l : Label} {p : PC} (hp : g.core.pc l = some p) (hg : p.atGate = true) (ha : g.asleep l = false)
      (hc : g.core.capacity = 0) :
      GStep onlyFirst P g (.tgt l) { g with asleep := upd g.asleep l true, gateQ := g.gateQ ++ [l] }
  | main {c : State} (hs : step P g.core .main = some c) : GStep onlyFirst P g .main { g with core := c }
  | enter {l : Label} {p : PC} {c : State} (hp : g.core.pc l = some p) (hg : p.atGate = true)
      (ha : g.asleep l = false) (hc : g.core.capacity ≠ 0) (hs : step P g.core (.tgt l) = some c) :
      GStep onlyFirst P g (.tgt l) { g with core := c }
  | exit {l : Label} {p : PC} {c : State} (hp : g.core.pc l = some p) (hg : p.atGate = false) (hx : p.isExit = true)
      (hs : step P g.core (.tgt l) = some c) :
      GStep onlyFirst P g (.tgt l)
        (if onlyFirst && g.core.capacity != 0 then { g with core := c } else gsignal { g with core := c })
  | other {l : Label} {p : PC} {c : State} (hp : g.core.pc l = some p) (hg : p.atGate = false) (hx : p.isExit = false)
      (hs : step P g.core (.tgt l) = some c) : GStep onlyFirst P g (.tgt l) { g with core := c }

theorem gstep_cases {onlyFirst : Bool} {P : Params} {g g' : GState} {t : Tid} (h : gstepV onlyFirst P g t = some g') :
    GStep onlyFirst P g t g' := by
  cases t with
  | main =>
    obtain ⟨c, hs, e⟩ := Option.map_eq_some_iff.mp h
    subst e; exact .main hs
  | tgt l =>
    simp only [gstepV] at h
    cases hp : g.core.pc l with
    | none => rw [hp] at h; cases h
    | some p =>
      rw [hp] at h; simp only at h
      by_cases hg : p.atGate = true
      · rw [if_pos hg] at h
        by_cases ha : g.asleep l = true
        · rw [if_pos ha] at h; cases h
        · rw [if_neg ha] at h
          by_cases hc : g.core.capacity = 0
          · rw [if_pos hc] at h; cases h; exact .sleep hp hg (Bool.eq_false_iff.mpr ha) hc
          · rw [if_neg hc] at h
            obtain ⟨c, hs, e⟩ := Option.map_eq_some_iff.mp h
            subst e; exact .enter hp hg (Bool.eq_false_iff.mpr ha) hc hs
      · rw [if_neg hg] at h
        by_cases hx : p.isExit = true
        · rw [if_pos hx] at h
          obtain ⟨c, hs, e⟩ := Option.map_eq_some_iff.mp h
          subst e; exact .exit hp (Bool.eq_false_iff.mpr hg) hx hs
        · rw [if_neg hx] at h
          obtain ⟨c, hs, e⟩ := Option.map_eq_some_iff.mp h
          subst e; exact .other hp (Bool.eq_false_iff.mpr hg) (Bool.eq_false_iff.mpr hx) hs

theorem gstep_blocked {onlyFirst : Bool} {P : Params} {g : GState} {t : Tid} (h : gstepV onlyFirst P g t = none) :
    (∃ l p, t = .tgt l ∧ g.core.pc l = some p ∧ p.atGate = true ∧ g.asleep l = true) ∨
    (step P g.core t = none ∧ ∀ l p, t = .tgt l → g.core.pc l = some p → p.atGate = false) := by
  cases t with
  | main => exact Or.inr ⟨Option.map_eq_none_iff.mp h, fun _ _ e => nomatch e⟩
  | tgt l =>
    simp only [gstepV] at h
    cases hp : g.core.pc l with
    | none => exact Or.inr ⟨by simp only [step, hp], fun x p e hx => by cases e; rw [hp] at hx; cases hx⟩
    | some p =>
      rw [hp] at h; simp only at h
      by_cases hg : p.atGate = true
      · rw [if_pos hg] at h
        by_cases ha : g.asleep l = true
        · exact Or.inl ⟨l, p, rfl, hp, hg, ha⟩
        · -- awake at the gate: it goes to sleep or, a slot being free, takes it
          rw [if_neg ha] at h
          by_cases hc : g.core.capacity = 0
          · rw [if_pos hc] at h; cases h
          · rw [if_neg hc, Option.map_eq_none_iff, step_tgt hp] at h
            cases p with
            | enter1 => rw [stepTgt_of_tstep (.enter1 hc)] at h; cases h
            | enter2 res => rw [stepTgt_of_tstep (.enter2 res hc)] at h; cases h
            | _ => cases hg
      · refine Or.inr ⟨?_, fun x q e hx => by cases e; rw [hp] at hx; cases hx; exact Bool.eq_false_iff.mpr hg⟩
        rw [if_neg hg] at h
        split at h <;> exact Option.map_eq_none_iff.mp h

theorem gstep_none_of_step_none {onlyFirst : Bool} {P : Params} {g : GState} {t : Tid} (h : step P g.core t = none)
    (hg : ∀ l p, t = .tgt l → g.core.pc l = some p → p.atGate = false) : gstepV onlyFirst P g t = none := by
  cases hgs : gstepV onlyFirst P g t with
  | none => rfl
  | some g' =>
    cases gstep_cases hgs with
    | sleep hp hg' => rw [hg _ _ rfl hp] at hg'; cases hg'
    | main hs => rw [h] at hs; cases hs
    | enter _ _ _ _ hs => rw [h] at hs; cases hs
    | exit _ _ _ hs => rw [h] at hs; cases hs
    | other _ _ _ hs => rw [h] at hs; cases hs

theorem gstepV_core {onlyFirst : Bool} {P : Params} {g g' : GState} {t : Tid} (h : gstepV onlyFirst P g t = some g') :
    g'.core = g.core ∨ step P g.core t = some g'.core := by
  cases gstep_cases h with
  | sleep => exact Or.inl rfl
  | main hs => exact Or.inr hs
  | enter _ _ _ _ hs => exact Or.inr hs
  | other _ _ _ hs => exact Or.inr hs
  | exit _ _ _ hs =>
    right; split
    · exact hs
    · rw [gsignal_core]; exact hs

theorem GReachable.core {P : Params} {g : GState} (h : GReachable P g) : Reachable P g.core := by
  induction h with
  | init => exact .init
  | step t _ hs ih =>
    rcases gstepV_core hs with h | h
    · rw [h]; exact ih
    · exact .step t ih h

def awake (g : GState) (x : Label) : Bool :=
  (match g.core.pc x with | some p => p.atGate | none => false) && !g.asleep x

theorem awake_eq {g : GState} {x : Label} {p : PC} (hp : g.core.pc x = some p) :
    awake g x = (p.atGate && !g.asleep x) := by
  unfold awake; rw [hp]

theorem awake_congr {g g' : GState} {x : Label} (hc : g'.core = g.core) (ha : g'.asleep x = g.asleep x) :
    awake g' x = awake g x := by
  unfold awake; rw [hc, ha]

theorem tstep_capacity {P : Params} {s s' : State} {l : Label} {p : PC} (h : TStep P s l p s') :
    s'.capacity = if p.atGate then s.capacity - 1 else if p.isExit then s.capacity + 1 else s.capacity := by
  cases h with
  | start d rest => exact startTarget_capacity s d
  | _ => rfl

theorem mstep_capacity {P : Params} {s s' : State} (h : MStep P s s') : s'.capacity = s.capacity := by
  cases h with
  | start hm => exact startTarget_capacity s _
  | _ => rfl

theorem count_frame_mono {s c : State} {l : Option Label} (fr : Frame s c l) (f f' : Label → Bool)
    (h : ∀ x ∈ s.registry, f x = true → f' x = true) :
    (s.registry.filter f).length ≤ (c.registry.filter f').length := by
  have h1 : (s.registry.filter f).length ≤ (s.registry.filter f').length := by
    rw [← List.countP_eq_length_filter, ← List.countP_eq_length_filter]; exact List.countP_mono_left h
  rcases fr.reg with e | ⟨d, e⟩ <;> rw [e]
  · exact h1
  · rw [List.filter_cons]; split
    · exact Nat.le_succ_of_le h1
    · exact h1

theorem count_frame_except {s c : State} {l : Option Label} (fr : Frame s c l) (hn : s.registry.Nodup) {w : Label}
    (hw : w ∈ s.registry) (f f' : Label → Bool) (h : ∀ x ∈ s.registry, x ≠ w → f x = true → f' x = true) :
    (s.registry.filter f).length + (if f' w then 1 else 0) ≤ (c.registry.filter f').length + (if f w then 1 else 0) := by
  have h1 := length_filter_upd s.registry f w (f' w) hn hw
  have h2 := count_frame_mono fr (upd f w (f' w)) f' fun x hx hfx => by
    by_cases e : x = w
    · rw [e, upd_same] at hfx; rw [e]; exact hfx
    · rw [upd_other _ _ _ _ e] at hfx; exact h x hx e hfx
  omega

theorem awake_frame {g g' : GState} {l : Option Label} (fr : Frame g.core g'.core l)
    (hs : ∀ x, g'.asleep x = true → g.asleep x = true) {x : Label} (hx : some x ≠ l) (ha : awake g x = true) :
    awake g' x = true := by
  cases hp : g.core.pc x with
  | none => rw [awake, hp] at ha; cases ha
  | some p =>
    rw [awake_eq hp] at ha; rw [awake_eq (fr.pc_some hx hp)]
    obtain ⟨h1, h2⟩ := Bool.and_eq_true_iff.mp ha
    refine Bool.and_eq_true_iff.mpr ⟨h1, ?_⟩
    cases h : g'.asleep x with
    | false => rfl
    | true => rw [hs x h] at h2; cases h2

/-- `k` is the number of free slots that need not be matched by a thread at the gate awake: `0` in the reachable
    states, `1` between the release and the `Signal` of an `exit`. -/
structure InvG (g : GState) (k : Nat := 0) : Prop where
  aq   : ∀ x, g.asleep x = true ↔ x ∈ g.gateQ
  nd   : g.gateQ.Nodup
  atg  : ∀ x, g.asleep x = true → ∃ p, g.core.pc x = some p ∧ p.atGate = true
  wake : g.gateQ ≠ [] → g.core.capacity ≤ (g.core.registry.filter (awake g)).length + k

theorem InvG.not_asleep {g : GState} (ig : InvG g) {l : Label} {p : PC} (hp : g.core.pc l = some p)
    (hg : p.atGate = false) : g.asleep l = false := by
  cases ha : g.asleep l with
  | false => rfl
  | true => obtain ⟨q, hq, hqg⟩ := ig.atg l ha; rw [hp] at hq; cases hq; rw [hg] at hqg; cases hqg

theorem invG_init (P : Params) : InvG (ginit P) where
  aq := fun _ => ⟨fun h => (nomatch h), fun h => (nomatch h)⟩
  nd := List.nodup_nil
  atg := fun _ h => nomatch h
  wake := fun h => absurd rfl h

theorem InvG.core_step {g : GState} (ig : InvG g) {c : State} {l : Option Label} {j k : Nat}
    (fr : Frame g.core c l) (hl : ∀ x, some x = l → g.asleep x = false)
    (hcap : c.capacity + j = g.core.capacity + k)
    (hcount : (g.core.registry.filter (awake g)).length ≤ (c.registry.filter (awake { g with core := c })).length + j) :
    InvG { g with core := c } k where
  aq := ig.aq
  nd := ig.nd
  atg := fun x hx => by
    obtain ⟨p, hp, hg⟩ := ig.atg x hx
    exact ⟨p, fr.pc_some (fun e => by rw [hl x e] at hx; cases hx) hp, hg⟩
  wake := fun hq => by
    have := ig.wake hq
    show c.capacity ≤ (c.registry.filter (awake { g with core := c })).length + k
    omega

/-- a step of a thread that does not stand at the gate: nobody at the gate is disturbed, and an `exit` frees a slot
    that is not matched yet -/
theorem InvG.off_gate {P : Params} {g : GState} (ig : InvG g) (inv : Inv P g.core) {l : Label} {p : PC} {c : State}
    (hp : g.core.pc l = some p) (hg : p.atGate = false) (hs : step P g.core (.tgt l) = some c) :
    InvG { g with core := c } (if p.isExit then 1 else 0) := by
  have hts := tstep_of_step hp hs
  have fr := tstep_frame inv hts
  have hcap := tstep_capacity hts
  rw [hg] at hcap
  refine ig.core_step (j := 0) fr (fun x e => by cases e; exact ig.not_asleep hp hg)
    (by rw [hcap]; cases p.isExit <;> rfl)
    (count_frame_mono fr _ _ fun x _ ha => ?_)
  by_cases e : x = l
  · rw [e, awake_eq hp, hg] at ha; cases ha
  · exact awake_frame (g' := { g with core := c }) fr (fun _ h => h) (fun c => e (Option.some.inj c)) ha

/-- `Signal`: the longest sleeper now stands at the gate awake -/
theorem InvG.signal {P : Params} {g : GState} (inv : Inv P g.core) (ig : InvG g 1) : InvG (gsignal g) := by
  by_cases hq : g.gateQ = []
  · rw [gsignal_nil hq]
    exact { aq := ig.aq, nd := ig.nd, atg := ig.atg, wake := fun h => absurd hq h }
  · obtain ⟨w, q, hq⟩ := List.exists_cons_of_ne_nil hq
    obtain ⟨hwq, hnq⟩ := List.nodup_cons.mp (hq ▸ ig.nd)
    have hwsl : g.asleep w = true := (ig.aq w).mpr (by rw [hq]; exact List.mem_cons_self)
    obtain ⟨pw, hpw, hgw⟩ := ig.atg w hwsl
    rw [gsignal_cons hq]
    exact {
      aq := fun x => by
        show upd g.asleep w false x = true ↔ x ∈ q
        by_cases e : x = w
        · rw [e, upd_same]; exact ⟨fun h => (nomatch h), fun h => absurd h hwq⟩
        · rw [upd_other _ _ _ _ e, ig.aq x, hq, List.mem_cons]; exact or_iff_right e
      nd := hnq
      atg := fun x (hx : upd g.asleep w false x = true) => by
        by_cases e : x = w
        · rw [e, upd_same] at hx; cases hx
        · exact ig.atg x (by rw [← hx]; exact (upd_other _ _ _ _ e).symm)
      wake := fun _ => by
        have h1 := ig.wake (by rw [hq]; exact List.cons_ne_nil _ _)
        have h2 := length_filter_upd g.core.registry (awake g) w true inv.nodup (inv.mem_reg hpw)
        have h3 : awake g w = false := by rw [awake_eq hpw, hwsl]; exact Bool.and_false _
        have h4 : g.core.registry.filter (awake { g with asleep := upd g.asleep w false, gateQ := q }) =
            g.core.registry.filter (upd (awake g) w true) := List.filter_congr fun x _ => by
          by_cases e : x = w
          · rw [e, upd_same, awake_eq (g := { g with asleep := upd g.asleep w false, gateQ := q }) hpw, hgw]
            show (true && !upd g.asleep w false w) = true
            rw [upd_same]; rfl
          · rw [upd_other _ _ _ _ e]; exact awake_congr rfl (upd_other _ _ _ _ e)
        show g.core.capacity ≤ (g.core.registry.filter (awake { g with asleep := upd g.asleep w false, gateQ := q })).length
        rw [h4]; rw [h3] at h2
        simp only [Bool.false_eq_true, ↓reduceIte] at h2; omega }

theorem invG_step {P : Params} {g g' : GState} {t : Tid} (hr : Reachable P g.core) (ig : InvG g)
    (h : gstep P g t = some g') : InvG g' := by
  have inv := hr.inv
  cases gstep_cases h with
  | @sleep l p hp hg ha hc =>
    have hnq : l ∉ g.gateQ := fun c => by rw [(ig.aq l).mpr c] at ha; cases ha
    exact {
      aq := fun x => by
        show upd g.asleep l true x = true ↔ x ∈ g.gateQ ++ [l]
        rw [List.mem_append, List.mem_singleton]
        by_cases e : x = l
        · rw [e, upd_same]; exact ⟨fun _ => Or.inr rfl, fun _ => rfl⟩
        · rw [upd_other _ _ _ _ e, ig.aq x]; exact (or_iff_left e).symm
      nd := List.nodup_append.mpr ⟨ig.nd, by simp, fun a ha b hb e =>
        hnq (by rw [← List.mem_singleton.mp hb, ← e]; exact ha)⟩
      atg := fun x hx => by
        by_cases e : x = l
        · rw [e]; exact ⟨_, hp, hg⟩
        · exact ig.atg x (by rw [← hx]; exact (upd_other _ _ _ _ e).symm)
      wake := fun _ => by show g.core.capacity ≤ _; rw [hc]; exact Nat.zero_le _ }
  | @main c hs =>
    have hm := mstep_of_step hs
    have fr := mstep_frame inv hm
    exact ig.core_step (j := 0) fr (fun _ e => nomatch e) (mstep_capacity hm)
      (count_frame_mono fr _ _ fun x _ => awake_frame (g' := { g with core := c }) fr (fun _ h => h)
        (Option.some_ne_none x))
  | @enter l p c hp hg ha hc hs =>
    -- takes a slot: one thread fewer stands at the gate
    have hts := tstep_of_step hp hs
    have fr := tstep_frame inv hts
    have hcap := tstep_capacity hts
    rw [if_pos hg] at hcap
    have hal : awake g l = true := by rw [awake_eq hp, hg, ha]; rfl
    have := count_frame_except fr inv.nodup (inv.mem_reg hp) (awake g) (awake { g with core := c })
      fun x _ hxl => awake_frame (g' := { g with core := c }) fr (fun _ h => h) fun e => hxl (Option.some.inj e)
    rw [hal] at this
    exact ig.core_step (j := 1) fr (fun x e => by cases e; exact ha) (by omega)
      (by simp only [↓reduceIte] at this; omega)
  | @other l p c hp hg hx hs =>
    have := ig.off_gate inv hp hg hs
    rw [hx] at this; exact this
  | @exit l p c hp hg hx hs =>
    -- frees a slot, then signals
    have := ig.off_gate inv hp hg hs
    rw [hx] at this; exact this.signal (hr.step _ hs).inv

theorem GReachable.invG {P : Params} {g : GState} (h : GReachable P g) : InvG g := by
  induction h with
  | init => exact invG_init P
  | step t hr hs ih => exact invG_step hr.core ih hs

theorem g_stuck_all_done {P : Params} (hcap : 1 ≤ P.cap) {g : GState} (hr : GReachable P g)
    (hstuck : ∀ t, gstep P g t = none) : g.core.isDone = true ∧ ∀ l p, g.core.pc l = some p → p = .done := by
  have inv := hr.core.inv
  have ig := hr.invG
  -- everybody at the gate sleeps
  have hsleep : ∀ x p, g.core.pc x = some p → p.atGate = true → g.asleep x = true := by
    intro x p hp hg
    rcases gstep_blocked (hstuck (.tgt x)) with ⟨_, q, e, hq, _, ha⟩ | ⟨_, h⟩
    · cases e; exact ha
    · rw [h x p rfl hp] at hg; cases hg
  -- nobody sleeps: otherwise no slot is free, and a holder could move
  have hnoq : g.gateQ = [] := by
    cases hq : g.gateQ with
    | nil => rfl
    | cons w q =>
      exfalso
      have hw := ig.wake (by rw [hq]; exact List.cons_ne_nil _ _)
      have hz : g.core.registry.filter (awake g) = [] := by
        refine List.filter_eq_nil_iff.mpr fun x _ hx => ?_
        unfold awake at hx
        cases hp : g.core.pc x with
        | none => rw [hp] at hx; cases hx
        | some p =>
          rw [hp] at hx
          obtain ⟨h1, h2⟩ := Bool.and_eq_true_iff.mp hx
          rw [hsleep x p hp h1] at h2; cases h2
      rw [hz] at hw
      obtain ⟨l, hl⟩ := exists_holder hcap inv (Nat.le_zero.mp hw)
      obtain ⟨s', hs'⟩ := holder_can_step inv hl
      rcases gstep_blocked (hstuck (.tgt l)) with ⟨_, p, e, hp, hg, _⟩ | ⟨h, _⟩
      · cases e
        rw [PC.not_atGate_of_executing ((inv.holds_of hp).symm.trans hl)] at hg; cases hg
      · rw [h] at hs'; cases hs'
  -- so nobody stands at the gate, and the core itself is stuck
  refine stuck_all_done hcap hr.core fun t => ?_
  rcases gstep_blocked (hstuck t) with ⟨l, p, _, _, _, ha⟩ | ⟨h, _⟩
  · have := (ig.aq l).mp ha
    rw [hnoq] at this; cases this
  · exact h

end Dawn.Runner
