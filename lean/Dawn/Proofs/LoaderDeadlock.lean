import Dawn.Proofs.LoaderWalk
import Dawn.Proofs.Finite
/-!
Deadlock freedom of the fixed loader: in a reachable state in which some goroutine has not returned, some goroutine can
take a step. Otherwise every unfinished goroutine is asleep on an unfinished module, which sits in the stack of another
sleeping goroutine; following this relation through the finitely many goroutines closes a cycle; on the cycle the
goroutine that published last has an old path from its target back to itself — which `Inv6.wait_safe` excludes.
-/
namespace Dawn.Loader

theorem pigeonhole (g : Nat → Nat) (n : Nat) (h : ∀ k, g k < n) : ∃ i j, i < j ∧ j ≤ n ∧ g i = g j := by
  simpa using Dawn.pigeonhole g (List.range n) fun t _ => List.mem_range.2 (h t)

def iterF (f : Nat → Nat) (a : Nat) : Nat → Nat
  | 0 => a
  | k + 1 => f (iterF f a k)

def Sleeping (s : State) (t : Tid) : Prop := ∃ d, s.pc t = .sleep d ∧ s.loaded d = false

/-- blocked in `Wait` means still on the notify list, and nobody is on the list of a loaded module (`InvA.listed`) -/
theorem stuck_thread {P : Project} {s : State} (lf : LockFree s) (inv1 : Inv1 P s) (invA : InvA s) {t : Tid}
    (h : next .fixed P s t = none) : s.pc t = .finished ∨ Sleeping s t := by
  by_cases hf : s.pc t = .finished
  · exact .inl hf
  · by_cases hl : ∃ d, s.pc t = .sleep d ∧ t ∈ s.asleep d
    · obtain ⟨d, hpc, hin⟩ := hl
      exact .inr ⟨d, hpc, (invA.listed d t hin).2⟩
    · obtain ⟨s', st⟩ := fstep_exists lf hf (inv1.body t) fun d hpc => by simpa using fun hin => hl ⟨d, hpc, hin⟩
      rw [next_of_fstep lf st] at h
      cases h

abbrev OnPath (s : State) (X a : Mod) : Prop := a = X ∨ Seg s X a X

theorem onPath_below {s : State} (X : Mod) : ∀ (stk : List Frame) (a : Mod), chainOK s.loading (some a) stk →
    OnPath s X a → (∀ g ∈ stk, s.ptime g.mod < s.ptime X) → ∀ g ∈ stk, Seg s X g.mod X := by
  intro stk
  induction stk with
  | nil => intro a _ _ _ g hg; cases hg
  | cons l rest ih =>
    intro a hc ha hp g hg
    have hl : Seg s X l.mod X := ha.elim (fun e => .one (e ▸ hc.1) (hp l (by simp))) (.more hc.1 (hp l (by simp)))
    rcases List.mem_cons.1 hg with rfl | hg
    · exact hl
    · exact ih l.mod hc.2 (.inr hl) (fun g hg => hp g (by simp [hg])) g hg

def topM (s : State) (u : Tid) : Mod := match s.stack u with | f :: _ => f.mod | [] => 0

theorem topM_eq {s : State} {u : Tid} {f : Frame} {rest : List Frame} (h : s.stack u = f :: rest) : topM s u = f.mod := by
  simp [topM, h]

/-- the frames below the top published before the top did (`Inv3.order`) -/
theorem onPath_of_top {s : State} (inv3 : Inv3 s) {X : Mod} {u : Tid} {f : Frame} {rest : List Frame} {d : Mod}
    (hs : s.stack u = f :: rest) (hw : waitingPc (s.pc u) = some d)
    (hon : OnPath s X f.mod) (hle : s.ptime f.mod ≤ s.ptime X) : ∀ g ∈ s.stack u, OnPath s X g.mod := by
  intro g hg
  rcases List.mem_cons.1 (hs ▸ hg) with rfl | hg
  · exact hon
  · have hptr : s.loading f.mod ≠ none := by rw [waiting_ptr inv3 hs hw]; simp
    have ho := inv3.order u
    rw [hs, List.pairwise_cons] at ho
    exact .inr (onPath_below X rest f.mod (inv3.chain u f rest hs).2 hon
      (fun g' hg' => Nat.lt_of_lt_of_le (ho.1 g' hg' hptr) hle) g hg)

/-- one edge of the waits-for relation (`u` sleeps on a module of `u'`), backwards: the top of `u` points to `g` and is
older than `X`, or is `X` -/
theorem onPath_back {s : State} (inv3 : Inv3 s) {X : Mod} (hX : s.loading X ≠ none) {u u' : Tid} {f f' g : Frame}
    {rest rest' : List Frame} {d' : Mod} (hs : s.stack u = f :: rest) (hpc : s.pc u = .sleep g.mod)
    (hs' : s.stack u' = f' :: rest') (hw' : waitingPc (s.pc u') = some d') (hg : g ∈ s.stack u')
    (hle : s.ptime f.mod ≤ s.ptime X) (hle' : s.ptime f'.mod ≤ s.ptime X) (hon : OnPath s X f'.mod) :
    OnPath s X g.mod ∧ OnPath s X f.mod := by
  have hgX := onPath_of_top inv3 hs' hw' hon hle' g hg
  refine ⟨hgX, ?_⟩
  have hptr : s.loading f.mod = some g.mod := waiting_ptr inv3 hs (by simp [hpc, waitingPc])
  by_cases hx : f.mod = X
  · exact .inl hx
  · have hlt : s.ptime f.mod < s.ptime X :=
      Nat.lt_of_le_of_ne hle fun e => hx (inv3.ptime_inj _ _ (by rw [hptr]; simp) hX e)
    exact .inr (hgX.elim (fun e => .one (e ▸ hptr) hlt) (.more hptr hlt))

theorem no_stuck {P : Project} {s : State} (hr : Reachable .fixed P s) (hstuck : ∀ t, next .fixed P s t = none)
    (t0 : Tid) (hun : s.pc t0 ≠ .finished) : False := by
  have i1 := inv1_reachable hr
  have i3 := inv3_reachable hr
  have hS : ∀ t, s.pc t = .finished ∨ Sleeping s t :=
    fun t => stuck_thread (lockFree_reachable hr) i1 (invA_reachable hr) (hstuck t)
  have hsucc : ∀ t, Sleeping s t → ∃ t', Sleeping s t' ∧ ∃ g ∈ s.stack t', s.pc t = .sleep g.mod := by
    intro t ⟨d, hpc, hl⟩
    have hreg := i1.found_reg t d (by simp [hpc, foundPc]) (by simp [hpc, target])
    rcases (inv2_reachable hr).owner d hreg hl with ⟨t', hm⟩ | ⟨t', hc⟩
    · obtain ⟨f, hf, rfl⟩ := List.mem_map.1 hm
      rcases hS t' with h | h
      · rw [i1.fin_empty t' h] at hf; cases hf
      · exact ⟨t', h, f, hf, hpc⟩
    · rcases hS t' with h | ⟨d', h, _⟩ <;> rcases hc with hc | hc <;> rw [h] at hc <;> cases hc
  obtain ⟨nxt, hnxt⟩ : ∃ nxt : Tid → Tid, ∀ t, Sleeping s t →
      Sleeping s (nxt t) ∧ ∃ g ∈ s.stack (nxt t), s.pc t = .sleep g.mod := by
    classical
    exact ⟨fun t => if h : Sleeping s t then (hsucc t h).choose else t,
      fun t h => by simp only [dif_pos h]; exact (hsucc t h).choose_spec⟩
  have hg : ∀ k, Sleeping s (iterF nxt t0 k) := fun k => by
    induction k with
    | zero => exact (hS t0).resolve_left hun
    | succ k ih => exact (hnxt _ ih).1
  have hlt : ∀ k, iterF nxt t0 k < P.roots.length := fun k => by
    obtain ⟨d, hpc, _⟩ := hg k
    refine Nat.lt_of_not_le fun hge => ?_
    rw [i1.idle _ hge] at hpc; cases hpc
  obtain ⟨i, L, hL, hper, hmax⟩ := orbit_max nxt (iterF nxt t0) (fun _ => rfl) (List.range P.roots.length)
    (fun q => List.mem_range.2 (hlt q)) (fun u => s.ptime (topM s u))
  -- `c`: the cycle, entered at the goroutine whose top frame `X` published last
  obtain ⟨c, hper, hcn, hcs, hmax⟩ : ∃ c : Nat → Tid, (∀ q, c (q + L) = c q) ∧ (∀ q, c (q + 1) = nxt (c q)) ∧
      (∀ q, Sleeping s (c q)) ∧ ∀ q, s.ptime (topM s (c q)) ≤ s.ptime (topM s (c 0)) :=
    ⟨fun q => iterF nxt t0 (i + q), hper, fun _ => rfl, fun _ => hg _, hmax⟩
  have hedge : ∀ q, ∃ g ∈ s.stack (c (q + 1)), s.pc (c q) = .sleep g.mod := fun q => hcn q ▸ (hnxt _ (hcs q)).2
  have hwait : ∀ q, ∃ d, waitingPc (s.pc (c q)) = some d := fun q => by
    obtain ⟨d, hpc, _⟩ := hcs q; exact ⟨d, by simp [hpc, waitingPc]⟩
  have hne : ∀ q, ∃ f rest, s.stack (c q) = f :: rest := fun q => by
    obtain ⟨g, hg, _⟩ := hedge (q + (L - 1))
    rw [show q + (L - 1) + 1 = q + L by omega, hper] at hg
    cases hs : s.stack (c q) with
    | nil => rw [hs] at hg; cases hg
    | cons f rest => exact ⟨f, rest, rfl⟩
  obtain ⟨fX, restX, hsX⟩ := hne 0
  have hXptr : s.loading fX.mod ≠ none := by obtain ⟨d, hw⟩ := hwait 0; rw [waiting_ptr i3 hsX hw]; simp
  have hle : ∀ {q f rest}, s.stack (c q) = f :: rest → s.ptime f.mod ≤ s.ptime fX.mod := fun {q _ _} h => by
    have := hmax q; rwa [topM_eq h, topM_eq hsX] at this
  -- once round the cycle, backwards, from `c L = c 0` to `c 1` and then to the target of `c 0`
  have back : ∀ q, OnPath s fX.mod (topM s (c (q + 1))) →
      (∃ g : Frame, s.pc (c q) = .sleep g.mod ∧ OnPath s fX.mod g.mod) ∧ OnPath s fX.mod (topM s (c q)) := by
    intro q hon
    obtain ⟨f, rest, hs⟩ := hne q
    obtain ⟨f', rest', hs'⟩ := hne (q + 1)
    obtain ⟨d', hw'⟩ := hwait (q + 1)
    obtain ⟨g, hg, hpc⟩ := hedge q
    rw [topM_eq hs'] at hon
    rw [topM_eq hs]
    have := onPath_back i3 hXptr hs hpc hs' hw' hg (hle hs) (hle hs') hon
    exact ⟨⟨g, hpc, this.1⟩, this.2⟩
  have round : ∀ k q, OnPath s fX.mod (topM s (c (q + k))) → OnPath s fX.mod (topM s (c q)) := by
    intro k
    induction k with
    | zero => exact fun q h => h
    | succ k ih => exact fun q h => ih q (back (q + k) h).2
  obtain ⟨⟨g, hpc, hon⟩, _⟩ := back 0 <| round (L - 1) 1 <| by
    rw [show 1 + (L - 1) = 0 + L by omega, hper]; exact .inl (topM_eq hsX)
  have hsafe := (inv6_reachable hr).wait_safe (c 0) fX restX g.mod hsX (.inr hpc)
  exact hon.elim hsafe.1 hsafe.2

end Dawn.Loader
