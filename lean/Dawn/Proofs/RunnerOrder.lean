import Dawn.Proofs.RunnerData
/-!
# Runner: the evaluation order

The ghost list `State.order` records the labels in the order in which their outcome was computed: the failed
`LoadTarget` of an unknown target, the rest of `Evaluate` of a known one. Each label occurs at most once, and a
known target that was not handed the cyclic-dependency error occurs after all of its dependencies — the guarantee
the incremental engine's theorems take as a hypothesis.
-/
namespace Dawn.Runner

/-- `rest` lists labels dependencies-first, given that the labels in `seen` came before: every known label that
    is not exempted by `c` (handed the cycle error) has all its dependencies earlier in the list -/
def DepsFirst (P : Params) (c : Label → Bool) : List Label → List Label → Prop
  | _, [] => True
  | seen, x :: rest =>
    (P.known x = true → c x = false → ∀ y ∈ P.deps x, y ∈ seen) ∧ DepsFirst P c (seen ++ [x]) rest

theorem DepsFirst.snoc {P : Params} {c : Label → Bool} {x : Label} :
    ∀ (ord seen : List Label), DepsFirst P c seen ord →
      (P.known x = true → c x = false → ∀ y ∈ P.deps x, y ∈ seen ++ ord) → DepsFirst P c seen (ord ++ [x]) := by
  intro ord
  induction ord with
  | nil => intro seen _ hx; exact ⟨by simpa using hx, trivial⟩
  | cons a t ih =>
    intro seen h hx
    refine ⟨h.1, ih (seen ++ [a]) h.2 ?_⟩
    intro hk hc y hy
    have := hx hk hc y hy
    simpa [List.append_assoc] using this

theorem DepsFirst.congr {P : Params} {c c' : Label → Bool} :
    ∀ (ord seen : List Label), (∀ x ∈ ord, c' x = c x) → DepsFirst P c seen ord → DepsFirst P c' seen ord := by
  intro ord
  induction ord with
  | nil => intro _ _ _; trivial
  | cons a t ih =>
    intro seen hc h
    refine ⟨?_, ih (seen ++ [a]) (fun x hx => hc x (List.mem_cons_of_mem _ hx)) h.2⟩
    rw [hc a (by simp)]
    exact h.1

structure InvO (P : Params) (s : State) : Prop where
  nodup : s.order.Nodup
  mem   : ∀ l, l ∈ s.order ↔ ∃ p, s.pc l = some p ∧ p.afterRest = true
  first : DepsFirst P s.cyc [] s.order

theorem invO_frame {P : Params} {s s' : State} (io : InvO P s) (ho : s'.order = s.order) (hc : s'.cyc = s.cyc)
    (hpc : ∀ l, (∃ p, s'.pc l = some p ∧ p.afterRest = true) ↔ (∃ p, s.pc l = some p ∧ p.afterRest = true)) :
    InvO P s' where
  nodup := by rw [ho]; exact io.nodup
  mem := by intro l; rw [ho, hpc l]; exact io.mem l
  first := by rw [ho, hc]; exact io.first

theorem invO_append {P : Params} {s s' : State} (io : InvO P s) (l : Label) (p p' : PC)
    (hp : s.pc l = some p) (hbefore : p.afterRest = false) (hafter : p'.afterRest = true)
    (ho : s'.order = s.order ++ [l]) (hpc : s'.pc = upd s.pc l (some p'))
    (hc : ∀ x, x ≠ l → s'.cyc x = s.cyc x)
    (hdeps : P.known l = true → s'.cyc l = false → ∀ y ∈ P.deps l, y ∈ s.order) : InvO P s' := by
  have hnot : l ∉ s.order := by
    intro h
    obtain ⟨q, hq, hqa⟩ := (io.mem l).mp h
    rw [hp] at hq; cases hq; rw [hbefore] at hqa; cases hqa
  exact {
    nodup := by
      rw [ho]
      exact List.nodup_append.mpr ⟨io.nodup, (by simp), fun a ha b hb e =>
        hnot (by rw [← List.mem_singleton.mp hb, ← e]; exact ha)⟩
    mem := by
      intro x
      rw [ho, hpc, List.mem_append, List.mem_singleton]
      by_cases e : x = l
      · subst e; simp only [upd_same, or_true, true_iff]; exact ⟨p', rfl, hafter⟩
      · rw [upd_other _ _ _ _ e, io.mem x]; exact or_iff_left e
    first := by
      rw [ho]
      apply DepsFirst.snoc
      · exact DepsFirst.congr _ _ (fun x hx => hc x fun e => hnot (e ▸ hx)) io.first
      · simpa using hdeps }

theorem invO_tstep {P : Params} {s s' : State} {l : Label} {p : PC} (inv : Inv P s) (inv2 : Inv2 P s)
    (io : InvO P s) (hp : s.pc l = some p) (h : TStep P s l p s') : InvO P s' := by
  have fr := tstep_frame inv h
  -- `l` stays on its side of the computation of its outcome, which leaves `order` and `cyc` alone
  have quiet : ∀ p', s'.pc l = some p' → p'.afterRest = p.afterRest → s'.order = s.order → s'.cyc = s.cyc →
      InvO P s' := by
    intro p' hp' ha ho hc
    refine invO_frame io ho hc fun x => ?_
    by_cases e : x = l
    · rw [e, hp, hp']; simp only [Option.some.injEq, exists_eq_left', ha]
    · exact fr.afterRest fun c => e (Option.some.inj c)
  cases h with
  | load =>
    by_cases hk : P.known l = true
    · exact quiet .evalStart (by show upd s.pc l _ l = _; rw [upd_same, if_pos hk]) rfl (if_pos hk) rfl
    · exact invO_append io l _ (.finish .failed .unknown) hp rfl rfl (if_neg hk)
        (by show upd s.pc l _ = _; rw [if_neg hk]) (fun _ _ => rfl) (fun h => absurd h hk)
  | evalRest res =>
    refine invO_append io l _ _ hp rfl rfl rfl rfl (fun x hx => upd_other _ _ _ _ hx) ?_
    intro _ hcl y hy
    cases res with
    | none =>
      have : (s.cyc l || true) = false := (upd_same s.cyc l _).symm.trans hcl
      rw [Bool.or_true] at this; cases this
    | some hs =>
      -- every dependency has finished, so its outcome was computed earlier
      obtain ⟨q, hq, hqf⟩ := inv.pc_of_final ((inv2 l _ hp).2 y hy)
      exact (io.mem y).mpr ⟨q, hq, PC.afterRest_of_final hqf⟩
  | start d rest => exact quiet _ (upd_same _ _ _) rfl (startTarget_order s d) (startTarget_cyc s d)
  | _ => exact quiet _ (upd_same _ _ _) rfl rfl rfl

theorem invO_mstep {P : Params} {s s' : State} (inv : Inv P s) (io : InvO P s) (h : MStep P s s') : InvO P s' := by
  have hpc := fun x => (mstep_frame inv h).afterRest (x := x) (Option.some_ne_none x)
  cases h with
  | start hm => exact invO_frame io (startTarget_order s _) (startTarget_cyc s _) hpc
  | _ => exact invO_frame io rfl rfl hpc

theorem Reachable.invO {P : Params} {s : State} (h : Reachable P s) : InvO P s :=
  h.rec_steps ⟨List.nodup_nil, fun _ => ⟨fun h => (nomatch h), fun ⟨_, h, _⟩ => (nomatch h)⟩, trivial⟩
    (fun hr i hm => invO_mstep hr.inv i hm) (fun hr i hp ht => invO_tstep hr.inv hr.inv2 i hp ht)

end Dawn.Runner
