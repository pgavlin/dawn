import Dawn.Proofs.DiffCompose
import Dawn.Proofs.DiffMerge
/-!
C16: extracting the route from the recorded points and recording it as raw edits (`recordSeq`, `extend`).
-/
namespace Dawn.Diff

section
variable {α : Type} (eqb : α → α → Bool) (a b : List α)

inductive Route : Int × Int → List (Int × Int) → Int × Int → Prop
  | nil (P : Int × Int) : Route P [] P
  | cons {P Q Z : Int × Int} {rest : List (Int × Int)} : Seg eqb a b P Q → Route Q rest Z → Route P (Q :: rest) Z

variable {eqb a b}

/-- The links strictly decrease (`PtsOK`), so from `pts[r]` there are at most `r + 1` calls that follow a link and one
that sees `-1`: fuel `r + 2`. -/
theorem route_spec {pts : Array Pt} (hp : PtsOK eqb a b pts) (r : Nat) :
    ∀ (q : Pt) (fuel : Nat) (acc : List (Int × Int)) (Z : Int × Int), pts[r]? = some q → r + 2 ≤ fuel →
      Route eqb a b (q.x, q.y) acc Z → ∃ L, route pts fuel (r : Int) acc = .ok L ∧ Route eqb a b (0, 0) L Z := by
  induction r using Nat.strongRecOn with
  | _ r ih =>
    intro q fuel acc Z hq hf hacc
    obtain ⟨f, rfl⟩ : ∃ f, fuel = f + 1 := ⟨fuel - 1, by omega⟩
    have h1 : ¬ ((r : Int) = -1) := by omega
    have h2 : ¬ ((r : Int) < 0) := by omega
    simp only [route, h1, h2, ↓reduceIte, Int.toNat_natCast, hq]
    obtain ⟨hlt, P, hA, hs⟩ := hp r q hq
    rcases hA with ⟨hr, rfl⟩ | ⟨hr0, q', hq', rfl⟩
    · obtain ⟨f', rfl⟩ : ∃ f', f = f' + 1 := ⟨f - 1, by omega⟩
      exact ⟨(q.x, q.y) :: acc, by simp [route, hr], .cons hs hacc⟩
    · have := ih q.r.toNat (by omega) q' f ((q.x, q.y) :: acc) Z hq' (by omega) (.cons hs hacc)
      rwa [Int.toNat_of_nonneg hr0] at this

end

/-! `recordSeq` is followed in terms of the old and the new sequence (`a` and `b`, or `b` and `a` when `diffSlice`
exchanged them): a step over an element of the old sequence is a delete, over one of the new sequence an add, a
diagonal step a common element, whose value and index are taken from the old sequence. -/

section
variable {α : Type}

/-- what `extend` makes of the edits when its slices are in range: one more element on the most recent edit if that
is a run of the same kind ending at `loc`, else a new edit -/
def pushElem (κ : Kind) (loc : Int) (v : α) : List (RawEdit α) → List (RawEdit α)
  | last :: rest =>
    if last.kind = κ ∧ last.start + last.values.length = loc then { last with values := last.values ++ [v] } :: rest
    else ⟨κ, loc, [v]⟩ :: last :: rest
  | [] => [⟨κ, loc, [v]⟩]

theorem extend_eq (κ : Kind) (src : List α) (loc : Int) (v : α) (es : List (RawEdit α)) (h0 : 0 ≤ loc)
    (hv : src[loc.toNat]? = some v)
    (htop : ∀ last rest, es = last :: rest → last.kind = κ → last.start + last.values.length = loc →
      0 ≤ last.start ∧ last.values = (src.drop last.start.toNat).take last.values.length) :
    extend κ src loc es = .ok (pushElem κ loc v es) := by
  have hone : slice src loc (loc + 1) = .ok [v] := slice_ext src loc loc [] v h0 (Int.add_zero _) rfl hv
  cases es with
  | nil => simp only [extend, pushElem, hone, bind, Except.bind, pure, Except.pure]
  | cons last rest =>
    by_cases ht : last.kind = κ ∧ last.start + last.values.length = loc
    · obtain ⟨hs0, hvals⟩ := htop last rest rfl ht.1 ht.2
      simp only [extend, pushElem, ht, and_self, ↓reduceIte, slice_ext src last.start loc last.values v hs0 ht.2 hvals hv,
        bind, Except.bind, pure, Except.pure]
    · simp only [extend, pushElem, ht, ↓reduceIte, hone, bind, Except.bind, pure, Except.pure]

variable (eqb : α → α → Bool)

variable {eqb} in
theorem RawS.grow {es : List (RawEdit α)} {O N dO dN : List α} (h : RawS eqb es O N) (κ : Kind) (loc : Int)
    (v : α) (hs : StepS eqb κ [v] dO dN) : RawS eqb (pushElem κ loc v es) (O ++ dO) (N ++ dN) := by
  cases h with
  | nil => exact RawS.snoc ⟨κ, loc, [v]⟩ [] [] [] dO dN RawS.nil hs
  | snoc last rest o n dO' dN' hrest hlast =>
    simp only [pushElem]
    split
    · next ht =>
      rw [List.append_assoc, List.append_assoc]
      exact RawS.snoc _ rest o n _ _ hrest (hlast.append (ht.1 ▸ hs))
    · exact RawS.snoc ⟨κ, loc, [v]⟩ (last :: rest) _ _ dO dN (RawS.snoc last rest o n dO' dN' hrest hlast) hs

variable (old new : List α)

def srcOf : Kind → List α
  | .add => new
  | _ => old

def locOf (po pn : Int) : Kind → Int
  | .add => pn
  | _ => po

/-- `e` is not empty and, once this pass has recorded something, is the run of its kind that ends at the present
position (the edits of earlier passes are slices of other sequences) -/
def TopOK (e : RawEdit α) (po pn : Int) : Prop :=
  0 ≤ e.start ∧ e.values ≠ [] ∧
    ((po = 0 ∧ pn = 0) ∨
     (e.start + e.values.length = locOf po pn e.kind ∧
      e.values = ((srcOf old new e.kind).drop e.start.toNat).take e.values.length))

def Top (es : List (RawEdit α)) (po pn : Int) : Prop := ∀ last rest, es = last :: rest → TopOK old new last po pn

/-- The invariant of `recordSeq` at `(po, pn)`: on top of what earlier passes account for (`o0`, `n0`) the edits
account for the first `po` old and the first `pn` new elements. -/
structure RecInv (o0 n0 : List α) (es : List (RawEdit α)) (po pn : Int) : Prop where
  po0 : 0 ≤ po
  pn0 : 0 ≤ pn
  sem : RawS eqb es (o0 ++ old.take po.toNat) (n0 ++ new.take pn.toNat)
  top : Top old new es po pn

variable {eqb old new}

theorem RecInv.step {o0 n0 : List α} {es : List (RawEdit α)} {po pn : Int} (h : RecInv eqb old new o0 n0 es po pn)
    (κ : Kind) (v : α) (hv : (srcOf old new κ)[(locOf po pn κ).toNat]? = some v) (po' pn' : Int)
    (hloc : locOf po' pn' κ = locOf po pn κ + 1) (hpo : po ≤ po') (hpn : pn ≤ pn') {dO dN : List α}
    (hs : StepS eqb κ [v] dO dN)
    (hO : old.take po'.toNat = old.take po.toNat ++ dO) (hN : new.take pn'.toNat = new.take pn.toNat ++ dN) :
    ∃ es', extend κ (srcOf old new κ) (locOf po pn κ) es = .ok es' ∧ RecInv eqb old new o0 n0 es' po' pn' := by
  have hl0 : 0 ≤ locOf po pn κ := by cases κ <;> first | exact h.po0 | exact h.pn0
  -- a most recent edit that `extend` takes for the run to continue is that run: at `(0, 0)` nothing ends
  have hrun : ∀ last rest, es = last :: rest → last.kind = κ → last.start + last.values.length = locOf po pn κ →
      0 ≤ last.start ∧ last.values = ((srcOf old new κ).drop last.start.toNat).take last.values.length := by
    intro last rest he hk hend
    obtain ⟨hs0, hne, ⟨rfl, rfl⟩ | ⟨_, hvals⟩⟩ := h.top last rest he
    · have := List.length_pos_iff.mpr hne
      have : locOf 0 0 κ = 0 := by cases κ <;> rfl
      omega
    · exact ⟨hs0, hk ▸ hvals⟩
  refine ⟨_, extend_eq κ _ _ v es hl0 hv hrun, Int.le_trans h.po0 hpo, Int.le_trans h.pn0 hpn, ?_, ?_⟩
  · rw [hO, hN, ← List.append_assoc, ← List.append_assoc]
    exact h.sem.grow κ _ v hs
  · intro last rest he
    have hnew : TopOK old new ⟨κ, locOf po pn κ, [v]⟩ po' pn' :=
      ⟨hl0, List.cons_ne_nil _ _, .inr ⟨hloc.symm, by
        simpa using (take_succ_drop (srcOf old new κ) (locOf po pn κ).toNat 0 v (by simpa using hv)).symm⟩⟩
    cases es with
    | nil => cases he; exact hnew
    | cons l r =>
      simp only [pushElem] at he
      split at he
      · next ht =>
        obtain ⟨hs0, hvals⟩ := hrun l r rfl ht.1 ht.2
        cases he
        refine ⟨hs0, by simp, .inr ⟨?_, ?_⟩⟩
        · simp only [List.length_append, List.length_singleton, ht.1, hloc]; omega
        · simp only [List.length_append, List.length_singleton]
          have e : (locOf po pn κ).toNat = l.start.toNat + l.values.length := by omega
          rw [ht.1, take_succ_drop _ l.start.toNat l.values.length v (e ▸ hv), ← hvals]
      · cases he; exact hnew

variable {o0 n0 : List α} {es : List (RawEdit α)} {po pn : Int}

theorem RecInv.delete (h : RecInv eqb old new o0 n0 es po pn) {v : α} (hv : old[po.toNat]? = some v) :
    ∃ es', extend .delete old po es = .ok es' ∧ RecInv eqb old new o0 n0 es' (po + 1) pn :=
  h.step .delete v hv (po + 1) pn rfl (Int.le_add_one (Int.le_refl _)) (Int.le_refl _) (.delete [v])
    (take_toNat_succ old h.po0 hv) (List.append_nil _).symm

theorem RecInv.add (h : RecInv eqb old new o0 n0 es po pn) {v : α} (hv : new[pn.toNat]? = some v) :
    ∃ es', extend .add new pn es = .ok es' ∧ RecInv eqb old new o0 n0 es' po (pn + 1) :=
  h.step .add v hv po (pn + 1) rfl (Int.le_refl _) (Int.le_add_one (Int.le_refl _)) (.add [v])
    (List.append_nil _).symm (take_toNat_succ new h.pn0 hv)

theorem RecInv.common (h : RecInv eqb old new o0 n0 es po pn) {v w : α} (hv : old[po.toNat]? = some v)
    (hw : new[pn.toNat]? = some w) (hE : E eqb v w) :
    ∃ es', extend .common old po es = .ok es' ∧ RecInv eqb old new o0 n0 es' (po + 1) (pn + 1) :=
  h.step .common v hv (po + 1) (pn + 1) rfl (Int.le_add_one (Int.le_refl _)) (Int.le_add_one (Int.le_refl _))
    (.common [v] [w] (.cons hE .nil)) (take_toNat_succ old h.po0 hv) (take_toNat_succ new h.pn0 hw)

end

section
variable {α : Type} (eqb : α → α → Bool) (a b : List α)

/-- the invariant in the coordinates of the search: `a` is the old sequence unless `reverse` -/
def RecInvRev (reverse : Bool) (o0 n0 : List α) (es : List (RawEdit α)) (px py : Int) : Prop :=
  match reverse with
  | false => RecInv eqb a b o0 n0 es px py
  | true => RecInv eqb b a o0 n0 es py px

variable {eqb a b} {reverse : Bool} {o0 n0 : List α} {es : List (RawEdit α)} {px py : Int}

theorem step_x (h : RecInvRev eqb a b reverse o0 n0 es px py) {v : α} (hv : a[px.toNat]? = some v) :
    ∃ es', extend (if reverse then .add else .delete) a px es = .ok es' ∧
      RecInvRev eqb a b reverse o0 n0 es' (px + 1) py := by
  cases reverse
  · exact RecInv.delete h hv
  · exact RecInv.add h hv

theorem step_y (h : RecInvRev eqb a b reverse o0 n0 es px py) {v : α} (hv : b[py.toNat]? = some v) :
    ∃ es', extend (if reverse then .delete else .add) b py es = .ok es' ∧
      RecInvRev eqb a b reverse o0 n0 es' px (py + 1) := by
  cases reverse
  · exact RecInv.add h hv
  · exact RecInv.delete h hv

theorem step_c (h : RecInvRev eqb a b reverse o0 n0 es px py) (hc : Cell eqb a b px py) :
    ∃ es', extend .common (if reverse then b else a) (if reverse then py else px) es = .ok es' ∧
      RecInvRev eqb a b reverse o0 n0 es' (px + 1) (py + 1) := by
  obtain ⟨_, _, u, v, hu, hv, huv⟩ := hc
  cases reverse
  · exact RecInv.common h hu hv (.inl huv)
  · exact RecInv.common h hv hu (.inr huv)

theorem walk_diag (s : Nat) :
    ∀ (es : List (RawEdit α)) (px py : Int) (fuel : Nat), RecInvRev eqb a b reverse o0 n0 es px py →
      Diag eqb a b (px, py) s → s ≤ fuel →
      ∃ es', walkTo a b reverse (px + s) (py + s) fuel ⟨px, py, es⟩ = .ok ⟨px + s, py + s, es'⟩ ∧
        RecInvRev eqb a b reverse o0 n0 es' (px + s) (py + s) := by
  induction s with
  | zero =>
    intro es px py fuel h _ _
    refine ⟨es, ?_, by simpa using h⟩
    unfold walkTo
    simp
  | succ s ih =>
    intro es px py fuel h hcells hf
    obtain ⟨f, rfl⟩ : ∃ f, fuel = f + 1 := ⟨fuel - 1, by omega⟩
    obtain ⟨es1, e1, h1⟩ := step_c h (by simpa using hcells 0 (Nat.succ_pos s))
    have ex : px + ((s + 1 : Nat) : Int) = px + 1 + s := by omega
    have ey : py + ((s + 1 : Nat) : Int) = py + 1 + s := by omega
    obtain ⟨es2, e2, h2⟩ := ih es1 (px + 1) (py + 1) f h1
      (fun i hi => by
        have := hcells (i + 1) (by omega)
        simp only [Int.natCast_add, Int.natCast_one] at this
        rwa [Int.add_comm (i : Int) 1, ← Int.add_assoc, ← Int.add_assoc] at this)
      (by omega)
    rw [ex, ey]
    refine ⟨es2, ?_, h2⟩
    unfold walkTo
    have c : (px < px + 1 + s ∨ py < py + 1 + s) ∧ ¬ (py + 1 + s - (px + 1 + s) > py - px) ∧
        ¬ (py + 1 + s - (px + 1 + s) < py - px) := by omega
    simp only [c.1, ↓reduceIte, c.2.1, c.2.2, e1, bind, Except.bind]
    exact e2

/-- The fuel is the distance in `x` plus the distance in `y`: a step in `x` or `y` uses one unit, a diagonal step one
unit for two. -/
theorem walk_seg (P Q : Int × Int) (hseg : Seg eqb a b P Q) (h : RecInvRev eqb a b reverse o0 n0 es P.1 P.2) :
    ∃ es', walkTo a b reverse Q.1 Q.2 ((Q.1 - P.1).toNat + (Q.2 - P.2).toNat) ⟨P.1, P.2, es⟩ = .ok ⟨Q.1, Q.2, es'⟩ ∧
      RecInvRev eqb a b reverse o0 n0 es' Q.1 Q.2 := by
  obtain ⟨S, s, hmove, hcells, rfl⟩ := hseg
  rcases hmove with rfl | ⟨rfl, hx0, hx1⟩ | ⟨rfl, hy0, hy1⟩
  · exact walk_diag s es S.1 S.2 _ h hcells (by simp only; omega)
  · -- a step in x, then the diagonal
    obtain ⟨v, hv⟩ : ∃ v, a[P.1.toNat]? = some v := ⟨a[P.1.toNat]'(by omega), List.getElem?_eq_getElem _⟩
    obtain ⟨es1, e1, r1⟩ := step_x h hv
    obtain ⟨es2, e2, r2⟩ := walk_diag s es1 (P.1 + 1) P.2 (s + s) r1 hcells (by omega)
    refine ⟨es2, ?_, r2⟩
    have c : (P.1 + 1 + ↑s - P.1).toNat + (P.2 + ↑s - P.2).toNat = (s + s) + 1 ∧
        (P.1 < P.1 + 1 + s ∨ P.2 < P.2 + s) ∧ ¬ (P.2 + s - (P.1 + 1 + s) > P.2 - P.1) ∧
        P.2 + s - (P.1 + 1 + s) < P.2 - P.1 := by omega
    simp only [c.1]
    unfold walkTo
    simp only [c.2.1, ↓reduceIte, c.2.2.1, c.2.2.2, e1, bind, Except.bind]
    exact e2
  · -- a step in y, then the diagonal
    obtain ⟨v, hv⟩ : ∃ v, b[P.2.toNat]? = some v := ⟨b[P.2.toNat]'(by omega), List.getElem?_eq_getElem _⟩
    obtain ⟨es1, e1, r1⟩ := step_y h hv
    obtain ⟨es2, e2, r2⟩ := walk_diag s es1 P.1 (P.2 + 1) (s + s) r1 hcells (by omega)
    refine ⟨es2, ?_, r2⟩
    have c : (P.1 + ↑s - P.1).toNat + (P.2 + 1 + ↑s - P.2).toNat = (s + s) + 1 ∧
        (P.1 < P.1 + s ∨ P.2 < P.2 + 1 + s) ∧ P.2 + 1 + s - (P.1 + s) > P.2 - P.1 := by omega
    simp only [c.1]
    unfold walkTo
    simp only [c.2.1, ↓reduceIte, c.2.2, e1, bind, Except.bind]
    exact e2

theorem walkRoute_spec {route : List (Int × Int)} {P Z : Int × Int} (hr : Route eqb a b P route Z) :
    ∀ es : List (RawEdit α), RecInvRev eqb a b reverse o0 n0 es P.1 P.2 →
      ∃ es', walkRoute a b reverse route ⟨P.1, P.2, es⟩ = .ok ⟨Z.1, Z.2, es'⟩ ∧ RecInvRev eqb a b reverse o0 n0 es' Z.1 Z.2 := by
  induction hr with
  | nil P => exact fun es h => ⟨es, rfl, h⟩
  | cons hseg _ ih =>
    intro es h
    obtain ⟨es1, e1, r1⟩ := walk_seg _ _ hseg h
    obtain ⟨es2, e2, r2⟩ := ih es1 r1
    refine ⟨es2, ?_, r2⟩
    simp only [walkRoute, bind, Except.bind, e1]
    exact e2

theorem RecInvRev.init (reverse : Bool) : RecInvRev eqb a b reverse [] [] [] 0 0 := by
  cases reverse <;> exact ⟨Int.le_refl _, Int.le_refl _, RawS.nil, fun _ _ he => nomatch he⟩

theorem RecInvRev.sem (h : RecInvRev eqb a b reverse o0 n0 es px py) :
    RawS eqb es (o0 ++ (if reverse then b.take py.toNat else a.take px.toNat))
      (n0 ++ (if reverse then a.take px.toNat else b.take py.toNat)) := by
  cases reverse <;> exact RecInv.sem h

/-- the next pass starts from what this one has recorded -/
theorem RecInvRev.restart (h : RecInvRev eqb a b reverse o0 n0 es px py) (a' b' : List α) :
    RecInvRev eqb a' b' reverse (o0 ++ (if reverse then b.take py.toNat else a.take px.toNat))
      (n0 ++ (if reverse then a.take px.toNat else b.take py.toNat)) es 0 0 := by
  cases reverse <;>
    exact ⟨Int.le_refl _, Int.le_refl _, by simpa using RecInv.sem h, fun last rest he =>
      let ⟨h0, hne, _⟩ := RecInv.top h last rest he; ⟨h0, hne, .inl ⟨rfl, rfl⟩⟩⟩

end
end Dawn.Diff
