import Dawn.Proofs.PickleDec
/-! The model has the decoder's byte loop three times, once for each use of a Decoder that a property speaks of:
`decodeLoop`, under `decode`, is one `Decode` on a fresh Decoder (C07, C15); `decodeNext` also hands back the Decoder and
the unread input, so that `decodeStream` can call `Decode` again after a value (C07 for streams); `decodeCall` hands
back the recovered outcome and the Decoder as a call leaves it also when it failed (`failState`), so that `decodeCalls`
can go on after an error (C15 for a Decoder used again). They are one loop, and every call of it on a state with all
references in range ends: with a well-formed value, an error, or `(nil, nil)` for which the host or the `failure` type
is to blame. -/
namespace Dawn.Pickle

def NextRaw.raw : NextRaw → Raw
  | .value v ds _ => .value v ds.heap
  | .failure k => .failure k
  | .rtPanic => .rtPanic
  | .otherPanic => .otherPanic
  | .outOfFuel => .outOfFuel

theorem decodeLoop_eq_next (cfg : DecCfg) : ∀ (fuel : Nat) (ds : DecSt) (bs : Bytes),
    decodeLoop cfg fuel ds bs = (decodeNext cfg fuel ds bs).raw
  | 0, _, _ => rfl
  | fuel + 1, ds, bs => by
    simp only [decodeLoop, decodeNext]
    split <;> try rfl
    split <;> first | rfl | exact decodeLoop_eq_next cfg fuel _ _

theorem decodeCall_fst (cfg : DecCfg) : ∀ (fuel : Nat) (ds : DecSt) (bs : Bytes),
    (decodeCall cfg fuel ds bs).1 = recoverDecode cfg.failureIsInterface (decodeLoop cfg fuel ds bs)
  | 0, _, _ => rfl
  | fuel + 1, ds, bs => by
    simp only [decodeCall, decodeLoop]
    split <;> try rfl
    split <;> first | rfl | exact decodeCall_fst cfg fuel _ _

theorem failState_closed (ds : DecSt) (o : Op) (hc : Closed ds) : Closed (failState ds o) := by
  have sub : ∀ {stk : List Val}, (∀ x ∈ stk, x ∈ ds.stack) → Closed { ds with stack := stk } :=
    fun h => hc.restack fun x hx => hc.stack x (h x hx)
  cases o <;> simp only [failState] <;> try exact hc
  case append =>
    split
    · rename_i hst; exact sub fun x hx => by simp [hst, hx]
    · exact hc
  case tuple2 =>
    split
    · exact sub (by simp)
    · exact hc
  case tuple3 =>
    split
    · exact sub (by simp)
    · exact sub (by simp)
    · exact hc
  case stackGlobal =>
    split
    · rename_i hst; exact sub fun x hx => by simp [hst, hx]
    · exact sub (by simp)
    · rename_i hst; exact sub fun x hx => by simp [hst, hx]
    · exact hc
  case newobj =>
    split
    · rename_i a rest hst
      split
      · exact sub fun x hx => by rw [hst]; exact List.mem_cons_of_mem _ (List.mem_of_mem_tail hx)
      · exact sub fun x hx => by simp [hst, hx]
    · rename_i hst; exact sub fun x hx => by simp [hst, hx]
    · exact hc

def Outcome.Safe (cfg : DecCfg) : Outcome → Prop
  | .ok h v => v.closed h.length ∧ HeapClosed h
  | .err _ => True
  | .nilNoErr => HostMisbehaves cfg ∨ cfg.failureIsInterface = false
  | .outOfFuel => False

/-- each iteration consumes a byte, so more fuel than input never runs out; each step keeps the state closed -/
theorem decodeCall_safe (cfg : DecCfg) : ∀ (fuel : Nat) (ds : DecSt) (bs : Bytes), bs.length < fuel → Closed ds →
    (decodeCall cfg fuel ds bs).1.Safe cfg ∧ Closed (decodeCall cfg fuel ds bs).2.1 := by
  intro fuel
  induction fuel with
  | zero => intro ds bs h; omega
  | succ fuel ih =>
    intro ds bs hlen hc
    simp only [decodeCall]
    split
    · exact ⟨trivial, hc⟩
    · exact ⟨trivial, hc⟩
    · rename_i o rest hp
      have hl := parseOp_length _ _ _ hp
      have hs := stepOp_safe cfg hc o
      split <;> rename_i hstep <;> rw [hstep] at hs
      · exact ih _ rest (by omega) hs
      · exact ⟨⟨hs.2, hs.1.heap⟩, hs.1⟩
      · exact ⟨trivial, failState_closed ds o hc⟩
      · refine ⟨?_, failState_closed ds o hc⟩
        split
        · trivial
        · exact .inr ((Bool.not_eq_true _).mp ‹_›)
      · exact ⟨.inl hs, failState_closed ds o hc⟩

theorem decodeCalls_safe (cfg : DecCfg) : ∀ (n : Nat) (ds : DecSt) (bs : Bytes), Closed ds →
    ∀ o ∈ decodeCalls cfg n ds bs, o.Safe cfg := by
  intro n
  induction n with
  | zero => intro ds bs _ o ho; simp [decodeCalls] at ho
  | succ n ih =>
    intro ds bs hc o ho
    simp only [decodeCalls, List.mem_cons] at ho
    have hs := decodeCall_safe cfg (bs.length + 1) ds bs (Nat.lt_succ_self _) hc
    rcases ho with rfl | ho
    · exact hs.1
    · exact ih _ _ hs.2 o ho

theorem decode_safe (cfg : DecCfg) (bs : Bytes) : (decode cfg bs).Safe cfg := by
  rw [decode, ← decodeCall_fst]
  exact (decodeCall_safe cfg _ {} bs (Nat.lt_succ_self _) Closed.init).1

end Dawn.Pickle
