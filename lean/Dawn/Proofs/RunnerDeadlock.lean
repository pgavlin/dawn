import Dawn.Proofs.RunnerWalk
import Dawn.Proofs.RunnerData
import Dawn.Proofs.Finite
/-!
# Runner: deadlock freedom (C05)

1. Refinement: `proj` maps a runner state onto the abstract publish-then-walk system of
   `Dawn/Proofs/RunnerWalk.lean`; every runner step is a stutter or an abstract step (`proj_mstep`, `proj_tstep`), hence
   the abstract invariant holds in every reachable state (`Reachable.rinv`).
2. A state in which no thread can step: a slot holder can always step (`holder_can_step`), so slots are free
   and nobody is blocked at the gate; every thread that is not `done` waits for a running dependency, which is
   again such a thread. Following these dependencies inside the finite registry gives a cycle of waiting threads
   (`Dawn.orbit_max`), which `Walk.no_blocked_cycle_iter` excludes. So all threads are `done` and `Run` has returned
   (`stuck_all_done`), i.e. a state where `Run` has not returned has an enabled step (`C05_deadlock_free`).
-/
namespace Dawn.Runner

/-- phase of the publish-then-walk protocol a thread is in -/
def cls : Option PC → Walk.PC
  | some (.walk t) => .walking t
  | some (.waitDeps _ _) => .blocked
  | some .unpubCyc => .found
  | some (.enter2 _) => .past
  | some (.evalRest _) => .past
  | some (.finish _ _) => .past
  | some .exit2 => .past
  | some .wgDone => .past
  | some .done => .past
  | _ => .init

def proj (s : State) : Walk.St where
  pc := fun l => cls (s.pc l)
  pub := fun l => (s.waiting l).isSome
  ptime := s.ptime
  clock := s.clock
  seen := s.seen
  expd := s.expd

theorem cls_upd (pc : Label → Option PC) (l : Label) (q : Option PC) :
    (fun x => cls (upd pc l q x)) = upd (fun x => cls (pc x)) l (cls q) := by
  funext x; by_cases e : x = l <;> simp [upd, e]

theorem isSome_upd (w : Label → Option (List Label)) (l : Label) (v : Option (List Label)) :
    (fun x => (upd w l v x).isSome) = upd (fun x => (w x).isSome) l v.isSome := by
  funext x; by_cases e : x = l <;> simp [upd, e]

theorem proj_congr {s s' : State} (hpc : ∀ x, cls (s'.pc x) = cls (s.pc x))
    (hw : ∀ x, (s'.waiting x).isSome = (s.waiting x).isSome)
    (hpt : s'.ptime = s.ptime) (hc : s'.clock = s.clock) (hs : s'.seen = s.seen) (he : s'.expd = s.expd) :
    proj s' = proj s := by
  unfold proj
  rw [hpt, hc, hs, he, funext hpc, funext hw]

theorem cls_upd_same {s : State} {l : Label} {q : Option PC} (hc : cls q = cls (s.pc l)) :
    ∀ x, cls (upd s.pc l q x) = cls (s.pc x) := by
  intro x
  by_cases e : x = l
  · subst e; simp [hc]
  · simp [e]

theorem proj_startTarget {P : Params} {s : State} (inv : Inv P s) (d : Label) :
    proj (startTarget s d) = proj s := by
  unfold startTarget
  split
  next hidle =>
    have hpcd : s.pc d = none := inv.pc_none_of_idle hidle
    exact proj_congr (cls_upd_same (by rw [hpcd]; rfl)) (fun _ => rfl) rfl rfl rfl rfl
  next => rfl

/-- stutter of thread `l` staying in the same protocol phase, changing only gate, status or counting variables -/
macro "stutter" hp:ident : tactic =>
  `(tactic| exact Or.inl (proj_congr (cls_upd_same (by rw [$hp:ident]; rfl)) (fun _ => rfl) rfl rfl rfl rfl))

/-- an abstract step: unfold the projection of the successor state -/
macro "abstract_step" st:term : tactic =>
  `(tactic| (right
             have this := $st
             simp only [proj, cls_upd, isSome_upd] at this ⊢
             exact this))

theorem proj_tstep {P : Params} {s s' : State} {l : Label} {p : PC} (inv : Inv P s)
    (hp : s.pc l = some p) (h : TStep P s l p s') :
    proj s' = proj s ∨ Walk.Step P.deps (proj s) (proj s') := by
  have hcl : (proj s).pc l = cls (some p) := by simp [proj, hp]
  cases h with
  | load =>
    cases hk : P.known l with
    | true => simp only [if_true]; stutter hp
    | false =>
      simp only [Bool.false_eq_true, if_false]
      abstract_step (Walk.Step.skip (deps := P.deps) (proj s) l hcl)
  | start d rest =>
    left
    have h1 := proj_startTarget inv d
    rw [← h1]
    exact proj_congr (cls_upd_same (by rw [inv.pc_startTarget hp d]; rfl)) (fun _ => rfl) rfl rfl rfl rfl
  | publish => abstract_step (Walk.Step.publish (deps := P.deps) (proj s) l hcl)
  | found rest => abstract_step (Walk.Step.found (deps := P.deps) (proj s) l rest hcl)
  | readPub d rest ds hd hw =>
    obtain ⟨rfl, _⟩ := inv.of_waiting hw
    abstract_step (Walk.Step.readPub (deps := P.deps) (proj s) l d rest hcl hd (by simp [proj, hw]))
  | readNil d rest hd hw =>
    abstract_step (Walk.Step.readUnpub (deps := P.deps) (proj s) l d rest hcl hd (by simp [proj, hw]))
  | walked => abstract_step (Walk.Step.walkDone (deps := P.deps) (proj s) l hcl)
  | unpub hs => abstract_step (Walk.Step.unpub (deps := P.deps) (proj s) l (Or.inl hcl))
  | unpubCyc => abstract_step (Walk.Step.unpub (deps := P.deps) (proj s) l (Or.inr hcl))
  | _ => stutter hp

theorem proj_mstep {P : Params} {s s' : State} (inv : Inv P s) (h : MStep P s s') : proj s' = proj s := by
  cases h with
  | start hm => exact proj_startTarget inv P.root
  | _ => rfl

theorem Reachable.rinv {P : Params} {s : State} (h : Reachable P s) : Walk.RInv P.deps (proj s) :=
  h.rec_steps (J := fun s => Walk.RInv P.deps (proj s)) (Walk.inv_init _ (fun _ => rfl) (fun _ => rfl))
    (fun hr i hm => proj_mstep hr.inv hm ▸ i)
    (fun hr i hp ht => (proj_tstep hr.inv hp ht).elim (fun e => e ▸ i) (Walk.inv_step i))

/-- the only blocking points: the gate when no slot is free, `wait()` on a running target, and the end -/
theorem stepTgt_none {P : Params} {s : State} {l : Label} {p : PC} (h : stepTgt P s l p = none) :
    (s.capacity = 0 ∧ (p = .enter1 ∨ ∃ res, p = .enter2 res)) ∨
    (∃ d rest hs, p = .waitDeps (d :: rest) hs ∧ s.status d = .running) ∨ p = .done := by
  cases p with
  | enter1 =>
    simp only [stepTgt] at h
    split at h
    next hc => exact Or.inl ⟨hc, Or.inl rfl⟩
    · cases h
  | enter2 res =>
    simp only [stepTgt] at h
    split at h
    next hc => exact Or.inl ⟨hc, Or.inr ⟨res, rfl⟩⟩
    · cases h
  | waitDeps todo hs =>
    cases todo with
    | nil => cases h
    | cons d rest =>
      simp only [stepTgt] at h
      split at h
      next hr => exact Or.inr (Or.inl ⟨d, rest, hs, rfl, hr⟩)
      · cases h
  | walk todo =>
    cases todo with
    | nil => cases h
    | cons d rest =>
      simp only [stepTgt] at h
      split at h
      · cases h
      · split at h <;> cases h
  | startDeps todo => cases todo <;> cases h
  | done => exact Or.inr (Or.inr rfl)
  | _ => cases h

theorem holder_can_step {P : Params} {s : State} (inv : Inv P s) {l : Label} (hh : s.holds l = true) :
    ∃ s', step P s (.tgt l) = some s' := by
  cases hp : s.pc l with
  | none => have := inv.holds l; rw [hp, hh] at this; cases this
  | some p =>
    have hx : p.executing = true := (inv.holds_of hp).symm.trans hh
    rw [step_tgt hp]
    cases hs : stepTgt P s l p with
    | some s' => exact ⟨s', rfl⟩
    | none => rcases stepTgt_none hs with ⟨_, h | ⟨res, h⟩⟩ | ⟨d, rest, hs', h, _⟩ | h <;> subst h <;> cases hx

theorem exists_holder {P : Params} (hcap : 1 ≤ P.cap) {s : State} (inv : Inv P s) (hc : s.capacity = 0) :
    ∃ l, s.holds l = true := by
  have hs := inv.slots
  cases hh : holders s with
  | nil => rw [hh, hc] at hs; simp at hs; omega
  | cons l t =>
    have : l ∈ holders s := by rw [hh]; exact List.mem_cons_self
    unfold holders at this
    exact ⟨l, (List.mem_filter.mp this).2⟩

theorem capacity_ne_zero_of_stuck {P : Params} (hcap : 1 ≤ P.cap) {s : State} (inv : Inv P s)
    (hstuck : ∀ t, step P s t = none) : s.capacity ≠ 0 := by
  intro hc
  obtain ⟨l, hl⟩ := exists_holder hcap inv hc
  obtain ⟨s', hs'⟩ := holder_can_step inv hl
  rw [hstuck] at hs'; cases hs'

def Stuck (s : State) (x : Label) : Prop :=
  ∃ d rest hs, s.pc x = some (.waitDeps (d :: rest) hs) ∧ s.status d = .running

def nxt (s : State) (x : Label) : Label :=
  match s.pc x with
  | some (.waitDeps (d :: _) _) => d
  | _ => x

theorem nxt_of {s : State} {x d : Label} {rest : List Label} {hs : List Err}
    (h : s.pc x = some (.waitDeps (d :: rest) hs)) : nxt s x = d := by
  simp [nxt, h]

theorem Stuck.blocked {s : State} {x : Label} (h : Stuck s x) : (proj s).pc x = .blocked := by
  obtain ⟨d, rest, hs, hp, _⟩ := h
  show cls (s.pc x) = .blocked
  rw [hp]; rfl

theorem done_or_stuck {P : Params} {s : State} (hstuck : ∀ t, step P s t = none) (hc : s.capacity ≠ 0)
    {x : Label} {p : PC} (hp : s.pc x = some p) : p = .done ∨ Stuck s x := by
  have := hstuck (.tgt x)
  rw [step_tgt hp] at this
  rcases stepTgt_none this with ⟨h0, _⟩ | ⟨d, rest, hs, h, hr⟩ | h
  · exact absurd h0 hc
  · subst h; exact Or.inr ⟨d, rest, hs, hp, hr⟩
  · exact Or.inl h

theorem Stuck.next {P : Params} {s : State} (inv : Inv P s) (inv2 : Inv2 P s)
    (hstuck : ∀ t, step P s t = none) (hc : s.capacity ≠ 0) {x : Label} (hx : Stuck s x) :
    nxt s x ∈ P.deps x ∧ Stuck s (nxt s x) := by
  obtain ⟨d, rest, hs, hp, hr⟩ := hx
  rw [nxt_of hp]
  constructor
  · obtain ⟨pre, h1, _⟩ := inv2 x _ hp
    rw [h1]; simp
  · obtain ⟨q, hq⟩ := inv.pc_of_not_idle (l := d) (by rw [hr]; intro c; cases c)
    rcases done_or_stuck hstuck hc hq with h | h
    · subst h
      have := inv.final_of hq rfl
      rw [hr] at this; cases this
    · exact h

/-- pigeonhole: a sequence inside a finite list repeats -/
theorem pigeonhole (g : Nat → Label) (ys : List Label) (h : ∀ t, g t ∈ ys) : ∃ i j, i < j ∧ g i = g j :=
  let ⟨i, j, hij, _, e⟩ := Dawn.pigeonhole g ys fun t _ => h t
  ⟨i, j, hij, e⟩

/-- if no thread can step, no thread waits for a running dependency: its dependencies would lead to a cycle
    of waiting threads, which the walk of its latest publisher excludes -/
theorem no_stuck {P : Params} (hcap : 1 ≤ P.cap) {s : State} (hr : Reachable P s)
    (hstuck : ∀ t, step P s t = none) (x : Label) : ¬ Stuck s x := by
  intro hx
  have inv := hr.inv
  have hc := capacity_ne_zero_of_stuck hcap inv hstuck
  have hnext : ∀ y, Stuck s y → nxt s y ∈ P.deps y ∧ Stuck s (nxt s y) := fun y hy => hy.next inv hr.inv2 hstuck hc
  -- the orbit of `x` consists of such threads and stays inside the registry
  have hS : ∀ t, Stuck s (Walk.iter (nxt s) t x) := by
    intro t
    induction t with
    | zero => exact hx
    | succ t ih => exact (hnext _ ih).2
  -- so it runs into a cycle, entered at its latest publisher `r`
  obtain ⟨i, L, hL, hper, hmax⟩ := orbit_max (nxt s) (fun t => Walk.iter (nxt s) t x) (fun _ => rfl) s.registry
    (fun t => by obtain ⟨d, rest, hs, hp, _⟩ := hS t; exact inv.mem_reg hp) s.ptime
  have hSr : ∀ t, Stuck s (Walk.iter (nxt s) t (Walk.iter (nxt s) i x)) := fun t => by
    rw [← Walk.iter_add]; exact hS _
  refine Walk.no_blocked_cycle_iter hr.rinv (nxt s) _ (L - 1) (fun t => (hSr t).blocked)
    (fun t => (hnext _ (hSr t)).1) (fun t => ?_) ?_
  · rw [← Walk.iter_add, Nat.add_comm]; exact hmax t
  · have := hper 0
    rwa [Nat.zero_add, Nat.add_zero, Nat.add_comm, Walk.iter_add, ← Nat.sub_add_cancel hL] at this

theorem stuck_all_done {P : Params} (hcap : 1 ≤ P.cap) {s : State} (hr : Reachable P s)
    (hstuck : ∀ t, step P s t = none) : s.isDone = true ∧ ∀ l p, s.pc l = some p → p = .done := by
  have inv := hr.inv
  have hc := capacity_ne_zero_of_stuck hcap inv hstuck
  have hall : ∀ l p, s.pc l = some p → p = .done := fun l p hp =>
    (done_or_stuck hstuck hc hp).resolve_right (no_stuck hcap hr hstuck l)
  refine ⟨?_, hall⟩
  have hmain : stepMain P s s.main = none := hstuck .main
  cases hm : s.main with
  | start => rw [hm] at hmain; cases hmain
  | wait =>
    -- the requested target's thread has ended, so its status is final and `Run` can read it
    obtain ⟨q, hq⟩ := Option.ne_none_iff_exists'.mp (inv.mainW (by rw [hm]; nofun))
    have hfin := inv.final_of hq (by rw [hall _ _ hq]; rfl)
    rw [hm, stepMain, if_neg (fun c => by rw [c] at hfin; cases hfin)] at hmain
    cases hmain
  | waitAll e =>
    -- every thread has ended, so the wait group is at zero
    have hlive : s.live = 0 := by
      rw [inv.live]
      refine List.length_eq_zero_iff.mpr (List.filter_eq_nil_iff.mpr fun l hl => ?_)
      obtain ⟨q, hq⟩ := Option.ne_none_iff_exists'.mp ((inv.reg l).mp hl)
      rw [alive, hq, hall _ _ hq]; simp
    rw [hm, stepMain, if_pos hlive] at hmain
    cases hmain
  | done e => rw [State.isDone, hm]

end Dawn.Runner
