import Dawn.Proofs.MvsDowngrade
/-!
# The exclusion closure of `mvs.Downgrade` (C11, "at or below")

`add` / `exclude` keep a module only if nothing it transitively requires exceeds the maxima of the downgrade:
`exclude` closes the excluded set under the recorded reverse dependencies (`exclude_spec`), the stack machine of `add`
keeps the invariant `DInv` ("a finished, not excluded module has all its requirements added, with itself recorded as
their dependent"), so a module that is added and not excluded between two top-level `add`s reaches only modules that do
not exceed the maxima (`safe_of_not_excluded`). The list `Downgrade` returns is built from such modules only.
-/
namespace Dawn.Mvs

def closedUnder (rdeps : List (Mod × Mod)) (ex : List Mod) : Prop := ∀ rp ∈ rdeps, rp.1 ∈ ex → rp.2 ∈ ex

def exclNew (rdeps : List (Mod × Mod)) (ex : List Mod) : List Mod :=
  (rdeps.filter fun rp => rp.1 ∈ ex ∧ rp.2 ∉ ex).map (·.2)

theorem exclClose_succ (rdeps : List (Mod × Mod)) (n : Nat) (ex : List Mod) :
    exclClose rdeps (n + 1) ex = exclClose rdeps n (ex ++ exclNew rdeps ex) := rfl

theorem exclNew_nil_iff (rdeps : List (Mod × Mod)) (ex : List Mod) : exclNew rdeps ex = [] ↔ closedUnder rdeps ex := by
  unfold exclNew closedUnder
  simp only [List.map_eq_nil_iff, List.filter_eq_nil_iff, decide_eq_true_eq, not_and, Decidable.not_not]

theorem exclClose_of_closed (rdeps : List (Mod × Mod)) : ∀ (n : Nat) (ex : List Mod), closedUnder rdeps ex →
    exclClose rdeps n ex = ex := by
  intro n
  induction n with
  | zero => intro ex _; rfl
  | succ n ih =>
    intro ex h
    rw [exclClose_succ, (exclNew_nil_iff rdeps ex).mpr h, List.append_nil]
    exact ih ex h

theorem exclClose_mono (rdeps : List (Mod × Mod)) : ∀ (n : Nat) (ex : List Mod), ∀ x ∈ ex, x ∈ exclClose rdeps n ex := by
  intro n
  induction n with
  | zero => intro ex x h; exact h
  | succ n ih => intro ex x h; rw [exclClose_succ]; exact ih _ x (List.mem_append_left _ h)

/-- entries of `rdeps` whose dependent is not excluded yet -/
def pendingDeps (rdeps : List (Mod × Mod)) (ex : List Mod) : Nat := (rdeps.filter fun rp => decide (rp.2 ∉ ex)).length

theorem exclClose_closed (rdeps : List (Mod × Mod)) : ∀ (n : Nat) (ex : List Mod), pendingDeps rdeps ex < n →
    closedUnder rdeps (exclClose rdeps n ex) := by
  intro n
  induction n with
  | zero => intro ex h; omega
  | succ n ih =>
    intro ex h
    rw [exclClose_succ]
    by_cases hnew : exclNew rdeps ex = []
    · have hc := (exclNew_nil_iff rdeps ex).mp hnew
      rw [hnew, List.append_nil, exclClose_of_closed rdeps n ex hc]; exact hc
    · -- the round excludes the dependent of some recorded pair, which was not excluded before
      obtain ⟨p, hp⟩ := List.exists_mem_of_ne_nil _ hnew
      obtain ⟨rp, hrp, rfl⟩ := List.mem_map.mp hp
      obtain ⟨hrd, hcond⟩ := List.mem_filter.mp hrp
      refine ih _ (Nat.lt_of_lt_of_le (filter_length_lt _ _ rdeps (fun x hx => ?_)
        ⟨rp, hrd, decide_eq_true (of_decide_eq_true hcond).2, by simp [hp]⟩) (Nat.le_of_lt_succ h))
      simp only [decide_eq_true_eq, List.mem_append, not_or] at hx ⊢
      exact hx.1

theorem exclude_spec (st : DState) (m : Mod) :
    (exclude st m).added = st.added ∧ (exclude st m).rdeps = st.rdeps ∧
    (∀ x ∈ st.excluded, x ∈ (exclude st m).excluded) ∧ m ∈ (exclude st m).excluded ∧
    (closedUnder st.rdeps st.excluded → closedUnder (exclude st m).rdeps (exclude st m).excluded) := by
  unfold exclude
  split
  · rename_i h
    exact ⟨rfl, rfl, fun _ h => h, h, fun h => h⟩
  · refine ⟨rfl, rfl, ?_, ?_, ?_⟩
    · intro x hx
      exact exclClose_mono _ _ _ x (List.mem_cons_of_mem _ hx)
    · exact exclClose_mono _ _ _ m List.mem_cons_self
    · intro _
      apply exclClose_closed
      unfold pendingDeps
      exact Nat.lt_succ_of_le (List.length_filter_le _ _)

/-- a finished module that is not excluded: it does not exceed the maxima, its requirements could be loaded, and every
one of them has been added and has recorded this module as a dependent -/
def GoodDone (rq : Reqs) (maxv : Sel) (st : DState) (m : Mod) : Prop :=
  wouldUpgrade maxv m = false ∧ ∃ l, rq.required m = some l ∧ ∀ r ∈ l, r ∈ st.added ∧ (r, m) ∈ st.rdeps

/-- a module whose `add` is still running -/
def GoodFrame (rq : Reqs) (maxv : Sel) (st : DState) (fr : AFrame) : Prop :=
  wouldUpgrade maxv fr.node = false ∧ ∃ l, rq.required fr.node = some l ∧
    ∀ r ∈ l, r ∈ fr.rest ∨ fr.pending = some r ∨ (r ∈ st.added ∧ (r, fr.node) ∈ st.rdeps)

structure DInv (rq : Reqs) (maxv : Sel) (stk : List AFrame) (st : DState) : Prop where
  closedR : closedUnder st.rdeps st.excluded
  nodup : (stk.map (·.node)).Nodup
  done : ∀ m ∈ st.added, m ∉ st.excluded → (∀ fr ∈ stk, fr.node ≠ m) → GoodDone rq maxv st m
  frames : ∀ fr ∈ stk, fr.node ∈ st.added ∧ (∀ r, fr.pending = some r → r ∈ st.added) ∧
    (fr.node ∈ st.excluded ∨ GoodFrame rq maxv st fr)

structure Grows (st st' : DState) : Prop where
  added : ∀ x ∈ st.added, x ∈ st'.added
  rdeps : ∀ x ∈ st.rdeps, x ∈ st'.rdeps
  excluded : ∀ x ∈ st.excluded, x ∈ st'.excluded

theorem Grows.exclude (st : DState) (m : Mod) : Grows st (exclude st m) := by
  obtain ⟨ea, er, emono, _, _⟩ := exclude_spec st m
  exact ⟨by rw [ea]; exact fun _ h => h, by rw [er]; exact fun _ h => h, emono⟩

theorem Grows.add (st : DState) (r : Mod) : Grows st { st with added := r :: st.added } :=
  ⟨fun _ h => List.mem_cons_of_mem _ h, fun _ h => h, fun _ h => h⟩

theorem Grows.trans {a b c : DState} (h1 : Grows a b) (h2 : Grows b c) : Grows a c :=
  ⟨fun x h => h2.added x (h1.added x h), fun x h => h2.rdeps x (h1.rdeps x h), fun x h => h2.excluded x (h1.excluded x h)⟩

theorem GoodDone.mono {rq : Reqs} {maxv : Sel} {st st' : DState} {m : Mod} (h : GoodDone rq maxv st m)
    (hle : Grows st st') : GoodDone rq maxv st' m := by
  obtain ⟨h1, l, h2, h3⟩ := h
  exact ⟨h1, l, h2, fun r hr => ⟨hle.added r (h3 r hr).1, hle.rdeps _ (h3 r hr).2⟩⟩

theorem GoodFrame.mono {rq : Reqs} {maxv : Sel} {st st' : DState} {fr : AFrame} (h : GoodFrame rq maxv st fr)
    (hle : Grows st st') : GoodFrame rq maxv st' fr := by
  obtain ⟨h1, l, h2, h3⟩ := h
  exact ⟨h1, l, h2, fun r hr => (h3 r hr).imp_right (·.imp_right fun h4 => ⟨hle.added r h4.1, hle.rdeps _ h4.2⟩)⟩

theorem GoodFrame.call {rq : Reqs} {maxv : Sel} {st : DState} {m r : Mod} {rs : List Mod}
    (h : GoodFrame rq maxv st ⟨m, .none, r :: rs⟩) : GoodFrame rq maxv st ⟨m, some r, rs⟩ := by
  obtain ⟨h1, l, h2, h3⟩ := h
  refine ⟨h1, l, h2, fun y hy => ?_⟩
  rcases h3 y hy with h4 | h4 | h4
  · exact (List.mem_cons.mp h4).elim (fun e => Or.inr (Or.inl (e ▸ rfl))) Or.inl
  · cases h4
  · exact Or.inr (Or.inr h4)

theorem GoodFrame.ret {rq : Reqs} {maxv : Sel} {st : DState} {m r : Mod} {rs : List Mod}
    (h : GoodFrame rq maxv st ⟨m, some r, rs⟩) (hr : r ∈ st.added) (hd : (r, m) ∈ st.rdeps) :
    GoodFrame rq maxv st ⟨m, .none, rs⟩ := by
  obtain ⟨h1, l, h2, h3⟩ := h
  refine ⟨h1, l, h2, fun y hy => ?_⟩
  rcases h3 y hy with h4 | h4 | h4
  · exact Or.inl h4
  · cases h4; exact Or.inr (Or.inr ⟨hr, hd⟩)
  · exact Or.inr (Or.inr h4)

theorem DInv.grow {rq : Reqs} {maxv : Sel} {stk : List AFrame} {st st' : DState} (inv : DInv rq maxv stk st)
    (hle : Grows st st') (hcl : closedUnder st'.rdeps st'.excluded)
    (hnew : ∀ m ∈ st'.added, m ∈ st.added ∨ m ∈ st'.excluded) : DInv rq maxv stk st' where
  closedR := hcl
  nodup := inv.nodup
  done m hm hne hns :=
    (inv.done m ((hnew m hm).resolve_right hne) (fun h => hne (hle.excluded m h)) hns).mono hle
  frames fr hfr :=
    let ⟨h1, h2, h3⟩ := inv.frames fr hfr
    ⟨hle.added _ h1, fun r hr => hle.added _ (h2 r hr), h3.imp (hle.excluded _) (·.mono hle)⟩

theorem DInv.replace {rq : Reqs} {maxv : Sel} {pre stk : List AFrame} {fr fr' : AFrame} {st : DState}
    (inv : DInv rq maxv (pre ++ fr :: stk) st) (hn : fr'.node = fr.node)
    (hp : ∀ r, fr'.pending = some r → r ∈ st.added) (hg : GoodFrame rq maxv st fr → GoodFrame rq maxv st fr') :
    DInv rq maxv (pre ++ fr' :: stk) st := by
  refine ⟨inv.closedR, by simpa [hn] using inv.nodup, fun m hm hne hns => inv.done m hm hne fun f hf => ?_, fun f hf => ?_⟩
  · rcases List.mem_append.mp hf with h | h
    · exact hns f (List.mem_append_left _ h)
    · rcases List.mem_cons.mp h with rfl | h
      · exact hn ▸ hns fr' (List.mem_append_right _ List.mem_cons_self)
      · exact hns f (List.mem_append_right _ (List.mem_cons_of_mem _ h))
  · rcases List.mem_append.mp hf with h | h
    · exact inv.frames f (List.mem_append_left _ h)
    · rcases List.mem_cons.mp h with rfl | h
      · obtain ⟨h1, _, h3⟩ := inv.frames fr (List.mem_append_right _ List.mem_cons_self)
        exact ⟨hn ▸ h1, hp, h3.imp (hn ▸ ·) hg⟩
      · exact inv.frames f (List.mem_append_right _ (List.mem_cons_of_mem _ h))

theorem DInv.push {rq : Reqs} {maxv : Sel} {stk : List AFrame} {st : DState} {r : Mod} {l : List Mod}
    (inv : DInv rq maxv stk st) (hr : r ∉ st.added) (hw : wouldUpgrade maxv r = false) (hl : rq.required r = some l) :
    DInv rq maxv (⟨r, .none, l⟩ :: stk) { st with added := r :: st.added } := by
  have hle := Grows.add st r
  refine ⟨inv.closedR, List.nodup_cons.mpr ⟨fun hin => ?_, inv.nodup⟩, fun m hm hne hns => ?_, fun f hf => ?_⟩
  · obtain ⟨f, hf, hfe⟩ := List.mem_map.mp hin
    have := (inv.frames f hf).1
    rw [hfe] at this; exact hr this
  · obtain ⟨hmr, hns⟩ := List.forall_mem_cons.mp hns
    exact (inv.done m ((List.mem_cons.mp hm).resolve_left (Ne.symm hmr)) hne hns).mono hle
  · rcases List.mem_cons.mp hf with rfl | h
    · exact ⟨List.mem_cons_self, (fun _ h => nomatch h), Or.inr ⟨hw, l, hl, fun y hy => Or.inl hy⟩⟩
    · obtain ⟨h1, h2, h3⟩ := inv.frames f h
      exact ⟨hle.added _ h1, fun x hx => hle.added _ (h2 x hx), h3.imp_right (·.mono hle)⟩

theorem DInv.pop {rq : Reqs} {maxv : Sel} {fr : AFrame} {stk : List AFrame} {st : DState}
    (inv : DInv rq maxv (fr :: stk) st) (h : fr.node ∈ st.excluded ∨ (fr.pending = .none ∧ fr.rest = [])) :
    DInv rq maxv stk st := by
  refine ⟨inv.closedR, (List.nodup_cons.mp inv.nodup).2, fun m hm hne hns => ?_,
    fun f hf => inv.frames f (List.mem_cons_of_mem _ hf)⟩
  by_cases hmf : fr.node = m
  · -- the finished frame of a module that is not excluded: nothing is left to visit, nothing pending
    subst hmf
    obtain ⟨hp, hr⟩ := h.resolve_left hne
    obtain ⟨g1, l, g2, g3⟩ := (inv.frames fr List.mem_cons_self).2.2.resolve_left hne
    refine ⟨g1, l, g2, fun y hy => ?_⟩
    rcases g3 y hy with h4 | h4 | h4
    · rw [hr] at h4; cases h4
    · rw [hp] at h4; cases h4
    · exact h4
  · exact inv.done m hm hne (List.forall_mem_cons.mpr ⟨hmf, hns⟩)

theorem addEnter_eq (rq : Reqs) (maxv : Sel) (st : DState) (r : Mod) :
    (r ∈ st.added ∧ addEnter rq maxv st r = (st, .none)) ∨
    (r ∉ st.added ∧ addEnter rq maxv st r = (exclude { st with added := r :: st.added } r, .none)) ∨
    (r ∉ st.added ∧ wouldUpgrade maxv r = false ∧ ∃ l, rq.required r = some l ∧
      addEnter rq maxv st r = ({ st with added := r :: st.added }, some ⟨r, .none, l⟩)) := by
  by_cases h : r ∈ st.added
  · exact Or.inl ⟨h, by simp [addEnter, h]⟩
  · right
    have key : addEnter rq maxv st r =
        (if wouldUpgrade maxv r = true then (exclude { st with added := r :: st.added } r, .none)
         else match rq.required r with
          | .none => (exclude { st with added := r :: st.added } r, .none)
          | some l => ({ st with added := r :: st.added }, some ⟨r, .none, l⟩)) := by
      unfold addEnter
      rw [if_neg h]
      rfl
    by_cases hb : wouldUpgrade maxv r = true
    · exact Or.inl ⟨h, by rw [key, if_pos hb]⟩
    · rw [if_neg hb] at key
      cases hr : rq.required r with
      | none => exact Or.inl ⟨h, by rw [key, hr]⟩
      | some l => exact Or.inr ⟨h, by simpa using hb, l, rfl, by rw [key, hr]⟩

theorem DInv.add_excluded {rq : Reqs} {maxv : Sel} {stk : List AFrame} {st : DState} {r : Mod}
    (inv : DInv rq maxv stk st) :
    DInv rq maxv stk (exclude { st with added := r :: st.added } r) ∧
      r ∈ (exclude { st with added := r :: st.added } r).added ∧
      ∀ x ∈ st.added, x ∈ (exclude { st with added := r :: st.added } r).added := by
  obtain ⟨ea, _, _, emem, ecl⟩ := exclude_spec { st with added := r :: st.added } r
  have hle := (Grows.add st r).trans (.exclude _ r)
  refine ⟨inv.grow hle (ecl inv.closedR) fun m hm => ?_, ea ▸ List.mem_cons_self, hle.added⟩
  rw [ea] at hm
  exact (List.mem_cons.mp hm).elim (fun e => Or.inr (e ▸ emem)) Or.inl

theorem addRun_nil (rq : Reqs) (maxv : Sel) (f : Nat) (st : DState) : addRun rq maxv f [] st = some st := by
  cases f <;> rfl

theorem addRun_ret (rq : Reqs) (maxv : Sel) (f : Nat) (m r : Mod) (rs : List Mod) (stk : List AFrame) (st : DState) :
    addRun rq maxv (f + 1) (⟨m, some r, rs⟩ :: stk) st =
      if r ∈ st.excluded then addRun rq maxv f stk (exclude st m)
      else addRun rq maxv f (⟨m, .none, rs⟩ :: stk) { st with rdeps := st.rdeps ++ [(r, m)] } := rfl

theorem addRun_pop (rq : Reqs) (maxv : Sel) (f : Nat) (m : Mod) (stk : List AFrame) (st : DState) :
    addRun rq maxv (f + 1) (⟨m, .none, []⟩ :: stk) st = addRun rq maxv f stk st := rfl

theorem addRun_call (rq : Reqs) (maxv : Sel) (f : Nat) (m r : Mod) (rs : List Mod) (stk : List AFrame) (st : DState) :
    addRun rq maxv (f + 1) (⟨m, .none, r :: rs⟩ :: stk) st =
      match addEnter rq maxv st r with
      | (st', .none) => addRun rq maxv f (⟨m, some r, rs⟩ :: stk) st'
      | (st', some fr) => addRun rq maxv f (fr :: ⟨m, some r, rs⟩ :: stk) st' := rfl

theorem addRun_inv (rq : Reqs) (maxv : Sel) : ∀ (f : Nat) (stk : List AFrame) (st st' : DState),
    DInv rq maxv stk st → addRun rq maxv f stk st = some st' →
      DInv rq maxv [] st' ∧ ∀ x ∈ st.added, x ∈ st'.added
  | f, [], st, st', inv, h => by
    rw [addRun_nil, Option.some.injEq] at h; subst h; exact ⟨inv, fun _ h => h⟩
  | 0, _ :: _, _, _, _, h => nomatch h
  | f + 1, ⟨m, some r, rs⟩ :: stk, st, st', inv, h => by
    rw [addRun_ret] at h
    split at h
    · -- the requirement is excluded: so is `m`
      obtain ⟨ea, _, _, emem, ecl⟩ := exclude_spec st m
      obtain ⟨h1, h2⟩ := addRun_inv rq maxv f stk _ st'
        ((inv.grow (.exclude st m) (ecl inv.closedR) fun x hx => Or.inl (ea ▸ hx)).pop (Or.inl emem)) h
      exact ⟨h1, fun x hx => h2 x (ea ▸ hx)⟩
    · next hrex =>
      -- `m` is recorded as a dependent of `r`, which is not excluded
      have hradd := (inv.frames _ List.mem_cons_self).2.1 r rfl
      have hcl : closedUnder (st.rdeps ++ [(r, m)]) st.excluded := fun rp hrp hin =>
        (List.mem_append.mp hrp).elim (fun h1 => inv.closedR rp h1 hin)
          fun h1 => by rw [List.mem_singleton.mp h1] at hin; exact absurd hin hrex
      exact addRun_inv rq maxv f _ { st with rdeps := st.rdeps ++ [(r, m)] } st'
        ((inv.grow (st' := { st with rdeps := st.rdeps ++ [(r, m)] })
          ⟨fun _ h => h, fun _ h => List.mem_append_left _ h, fun _ h => h⟩ hcl fun _ h => Or.inl h).replace
          (pre := []) (fr' := ⟨m, .none, rs⟩) rfl (fun _ h => nomatch h)
          (·.ret hradd (List.mem_append_right _ List.mem_cons_self))) h
  | f + 1, ⟨m, .none, []⟩ :: stk, st, st', inv, h => by
    rw [addRun_pop] at h
    exact addRun_inv rq maxv f stk st st' (inv.pop (Or.inr ⟨rfl, rfl⟩)) h
  | f + 1, ⟨m, .none, r :: rs⟩ :: stk, st, st', inv, h => by
    rw [addRun_call] at h
    rcases addEnter_eq rq maxv st r with ⟨hradd, heq⟩ | ⟨_, heq⟩ | ⟨hnew, hw, l, hl, heq⟩ <;> rw [heq] at h <;> dsimp only at h
    · exact addRun_inv rq maxv f _ st st' (inv.replace (pre := []) (fr' := ⟨m, some r, rs⟩) rfl
        (fun _ h => Option.some.inj h ▸ hradd) (·.call)) h
    · obtain ⟨inv', hr, hmono⟩ := inv.add_excluded (r := r)
      obtain ⟨h1, h2⟩ := addRun_inv rq maxv f _ _ st' (inv'.replace (pre := []) (fr' := ⟨m, some r, rs⟩) rfl
        (fun _ h => Option.some.inj h ▸ hr) (·.call)) h
      exact ⟨h1, fun x hx => h2 x (hmono x hx)⟩
    · obtain ⟨h1, h2⟩ := addRun_inv rq maxv f _ _ st' ((inv.push hnew hw hl).replace (pre := [_]) (fr' := ⟨m, some r, rs⟩) rfl
        (fun _ h => Option.some.inj h ▸ List.mem_cons_self) (·.call)) h
      exact ⟨h1, fun x hx => h2 x (List.mem_cons_of_mem _ hx)⟩

theorem dinv_empty (rq : Reqs) (maxv : Sel) : DInv rq maxv [] ⟨[], [], []⟩ :=
  ⟨(fun _ h => nomatch h), List.nodup_nil, (fun _ h => nomatch h), (fun _ h => nomatch h)⟩

theorem add_inv {fuel : Nat} {rq : Reqs} {maxv : Sel} {st st' : DState} {m : Mod}
    (inv : DInv rq maxv [] st) (h : add fuel rq maxv st m = some st') :
    DInv rq maxv [] st' ∧ m ∈ st'.added ∧ ∀ x ∈ st.added, x ∈ st'.added := by
  unfold add at h
  rcases addEnter_eq rq maxv st m with ⟨hadd, heq⟩ | ⟨_, heq⟩ | ⟨hnew, hw, l, hl, heq⟩ <;> rw [heq] at h <;> dsimp only at h
  · cases h; exact ⟨inv, hadd, fun _ h => h⟩
  · cases h
    exact inv.add_excluded
  · obtain ⟨k1, k2⟩ := addRun_inv rq maxv fuel _ _ st' (inv.push hnew hw hl) h
    exact ⟨k1, k2 m List.mem_cons_self, fun x hx => k2 x (List.mem_cons_of_mem _ hx)⟩

/-- reachable through requirement lists (first step first, so that what a requirement reaches its requirer reaches) -/
inductive PReach (rq : Reqs) : Mod → Mod → Prop where
  | refl (s : Mod) : PReach rq s s
  | head (s a b : Mod) (l : List Mod) : rq.required s = some l → a ∈ l → PReach rq a b → PReach rq s b

/-- nothing reachable from the module exceeds the maxima of the downgrade -/
def SafeMod (rq : Reqs) (maxv : Sel) (m : Mod) : Prop := ∀ x, PReach rq m x → wouldUpgrade maxv x = false

theorem SafeMod.step {rq : Reqs} {maxv : Sel} {a b : Mod} {l : List Mod} (h : SafeMod rq maxv a)
    (hl : rq.required a = some l) (hb : b ∈ l) : SafeMod rq maxv b :=
  fun x hx => h x (PReach.head a b x l hl hb hx)

theorem safe_of_not_excluded {rq : Reqs} {maxv : Sel} {st : DState} (inv : DInv rq maxv [] st) {m : Mod}
    (hm : m ∈ st.added) (hne : m ∉ st.excluded) : SafeMod rq maxv m := by
  intro x hx
  induction hx with
  | refl s => exact (inv.done s hm hne (fun _ h => nomatch h)).1
  | head s a b l hl ha _ ih =>
    obtain ⟨_, l', hl', hgood⟩ := inv.done s hm hne (fun _ h => nomatch h)
    cases hl.symm.trans hl'
    exact ih (hgood a ha).1 fun hex => hne (inv.closedR _ (hgood a ha).2 hex)

theorem reach_override_safe {rq : Reqs} {maxv : Sel} {target : Mod} {L : List Mod}
    (hL : ∀ s ∈ L, s = target ∨ SafeMod rq maxv s) {x : Mod}
    (h : Reach (override target L rq) .none target x) : x = target ∨ SafeMod rq maxv x := by
  induction h with
  | root => exact Or.inl rfl
  | step a b _ hb ih =>
    obtain ⟨_, r, hr, hbr⟩ := (mem_edges_plain _ a b).mp hb
    by_cases hat : a = target
    · subst hat
      cases (override_required_self _ _ _).symm.trans hr
      exact hL b hbr
    · exact Or.inr ((ih.resolve_left hat).step ((override_required_ne L rq hat).symm.trans hr) hbr)

theorem downMax_lookup (list : List Mod) (d : Mod) : ∃ u, (downMax list d).lookup d.path = some u ∧ Ver.le u d.ver := by
  rcases downMax_cases list d with hc | ⟨v, hl, hv, hc⟩ <;> rw [hc]
  · exact ⟨d.ver, by rw [lookup_setSel, if_pos rfl], Ver.le_refl _⟩
  · exact ⟨v, hl, hv ▸ le_vmax_left _ _⟩

/-- C11, the heart of "at or below": whatever `mvs.Downgrade` returns has the downgraded project at or below the requested
version (if it has it at all) — for every requirement graph and every `Previous` -/
theorem mvsDowngrade_at_or_below {fuel : Nat} {rq : Reqs} {prev : Mod → Option Mod} {target d : Mod} {bld : List Mod}
    (h : mvsDowngrade fuel rq prev target d = .ok bld) (hpath : d.path ≠ target.path) :
    ∀ w, (⟨d.path, w⟩ : Mod) ∈ bld → Ver.le w d.ver := by
  -- every round keeps the invariant of `add`; a module the loop `for excluded[r]` ends on has been added and is not excluded
  refine (mvsDowngrade_closure (P := fun full => SafeMod rq (downMax (full.drop 1) d)) h
    (fun full downgraded _ hdown x hx => ?_) (fun _ _ hL _ => reach_override_safe hL)).elim fun full ⟨L, hL, hbld⟩ w hw => ?_
  · generalize downMax (full.drop 1) d = maxv at hdown ⊢
    refine ((downLoop_inv (I := DInv rq maxv []) (C := fun _ => True) (fun st r st1 st2 res inv _ hadd hsd => ?_) _ _ _ _
      (dinv_empty rq _) (fun _ _ => trivial) hdown).1 x hx).imp_left List.mem_singleton.mp
    obtain ⟨inv1, hr1, _⟩ := add_inv inv hadd
    obtain ⟨r₁, ⟨inv2, hr₁⟩, h2⟩ := stepDown_inv (J := fun st r => DInv rq maxv [] st ∧ r ∈ st.added)
      (fun st r p st' hJ _ _ hadd => ⟨(add_inv hJ.1 hadd).1, (add_inv hJ.1 hadd).2.1⟩) _ _ _ _ _ ⟨inv1, hr1⟩ hsd
    exact ⟨inv2, fun r' hr' => (h2 r' hr').1 ▸ safe_of_not_excluded inv2 hr₁ ((h2 r' hr').1 ▸ (h2 r' hr').2)⟩
  · rcases reach_override_safe hL (reach_of_mem_buildList hbld hw) with h1 | h1
    · exact absurd (congrArg Mod.path h1) hpath
    · obtain ⟨u, hu, hule⟩ := downMax_lookup (full.drop 1) d
      have hbad := h1 _ (PReach.refl _)
      simp only [wouldUpgrade, hu] at hbad
      have hvm : vmax w u = u := by simpa using hbad
      exact Ver.le_trans (by rw [← hvm]; exact le_vmax_left _ _) hule

end Dawn.Mvs
