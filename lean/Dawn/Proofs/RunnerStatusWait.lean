import Dawn.Proofs.RunnerGate
/-!
# Runner: the status wait at the level of `cond.Wait` / `cond.Broadcast`

`WState` refines `GState` by who sleeps in `target.wait`. Every `wstepV` (any mode) is a `gstep` or leaves the
gate-level state unchanged, so all safety theorems transfer. With `Broadcast` on both exits of `run` a sleeper exists
only while its target is running (`InvW`), which gives deadlock freedom again; the two seeded defects (`WMode`) break
exactly that invariant.
-/
namespace Dawn.Runner

theorem wwake_g (mode : WMode) (P : Params) (l : Label) (e : Err) (w : WState) : (wwake mode P l e w).g = w.g := by
  cases mode
  · rfl
  · simp only [wwake]; split <;> rfl
  · simp only [wwake, wsignal]; split <;> rfl

/-- `wstepV` as a relation: a thread that waits for a running target goes to sleep; any other thread that is awake
    takes its step `g'` of the gate level, and wakes the sleepers when that step stores a target's status. -/
inductive WStep (mode : WMode) (P : Params) (w : WState) (t : Tid) : WState → Prop where
  | sleep {d : Label} (hd : sleepsOn P w.g.core t = some d) (ha : w.wsleep t = false)
      (hr : w.g.core.status d = .running) : WStep mode P w t { w with wsleep := updT w.wsleep t true, wq := w.wq ++ [t] }
  | pass {d : Label} {g' : GState} (hd : sleepsOn P w.g.core t = some d) (ha : w.wsleep t = false)
      (hs : gstep P w.g t = some g') : WStep mode P w t { w with g := g' }
  | finish {l : Label} {e : Err} {g' : GState} (hd : sleepsOn P w.g.core t = none)
      (hf : finishing w.g.core t = some (l, e)) (hs : gstep P w.g t = some g') :
      WStep mode P w t (wwake mode P l e { w with g := g' })
  | other {g' : GState} (hd : sleepsOn P w.g.core t = none) (hf : finishing w.g.core t = none)
      (hs : gstep P w.g t = some g') : WStep mode P w t { w with g := g' }

theorem wstep_cases {mode : WMode} {P : Params} {w w' : WState} {t : Tid} (h : wstepV mode P w t = some w') :
    WStep mode P w t w' := by
  unfold wstepV at h
  split at h
  next d hd =>
    by_cases ha : w.wsleep t = true
    · rw [if_pos ha] at h; cases h
    · rw [if_neg ha] at h
      split at h
      next hr => cases h; exact .sleep hd (Bool.eq_false_iff.mpr ha) hr
      · obtain ⟨g', hs, e⟩ := Option.map_eq_some_iff.mp h
        subst e; exact .pass hd (Bool.eq_false_iff.mpr ha) hs
  next hd =>
    split at h
    next l e hf =>
      obtain ⟨g', hs, e⟩ := Option.map_eq_some_iff.mp h
      subst e; exact .finish hd hf hs
    next hf =>
      obtain ⟨g', hs, e⟩ := Option.map_eq_some_iff.mp h
      subst e; exact .other hd hf hs

theorem wstep_blocked {mode : WMode} {P : Params} {w : WState} {t : Tid} (h : wstepV mode P w t = none) :
    w.wsleep t = true ∨ gstep P w.g t = none := by
  unfold wstepV at h
  split at h
  · by_cases ha : w.wsleep t = true
    · exact Or.inl ha
    · rw [if_neg ha] at h
      split at h
      · cases h
      · exact Or.inr (Option.map_eq_none_iff.mp h)
  · split at h <;> exact Or.inr (Option.map_eq_none_iff.mp h)

theorem wstepV_g {mode : WMode} {P : Params} {w w' : WState} {t : Tid} (h : wstepV mode P w t = some w') :
    w'.g = w.g ∨ gstep P w.g t = some w'.g := by
  cases wstep_cases h with
  | sleep => exact Or.inl rfl
  | pass _ _ hs => exact Or.inr hs
  | other _ _ hs => exact Or.inr hs
  | finish _ _ hs => right; rw [wwake_g]; exact hs

theorem WReachableV.g {mode : WMode} {P : Params} {w : WState} (h : WReachableV mode P w) : GReachable P w.g := by
  induction h with
  | init => exact .init
  | step t _ hs ih =>
    rcases wstepV_g hs with h | h
    · rw [h]; exact ih
    · exact .step t ih h

theorem WReachableV.core {mode : WMode} {P : Params} {w : WState} (h : WReachableV mode P w) :
    Reachable P w.g.core := h.g.core

theorem sleepsOn_tgt {P : Params} {s : State} {y d : Label} (h : sleepsOn P s (.tgt y) = some d) :
    ∃ rest hs, s.pc y = some (.waitDeps (d :: rest) hs) := by
  simp only [sleepsOn] at h
  split at h
  next d' rest hs hp => cases h; exact ⟨rest, hs, hp⟩
  · cases h

theorem wait_blocked {P : Params} {g : GState} {t : Tid} {d : Label} (hd : sleepsOn P g.core t = some d)
    (hr : g.core.status d = .running) : gstep P g t = none := by
  cases t with
  | main =>
    refine gstep_none_of_step_none ?_ fun _ _ e => nomatch e
    simp only [sleepsOn] at hd
    split at hd
    next hm => cases hd; simp only [step, hm, stepMain, hr, if_true]
    · cases hd
  | tgt y =>
    obtain ⟨rest, hs, hp⟩ := sleepsOn_tgt hd
    refine gstep_none_of_step_none ?_ fun l p e hp' => by cases e; rw [hp] at hp'; cases hp'; rfl
    rw [step_tgt hp]; simp only [stepTgt, hr, if_true]

theorem status_frame {P : Params} {s s' : State} {t : Tid} (h : step P s t = some s') (d : Label)
    (hr : s.status d = .running) : s'.status d = .running ∨ ∃ e, finishing s t = some (d, e) := by
  have hst : ∀ x, (startTarget s x).status d = .running := by
    intro x
    rcases startTarget_cases s x with ⟨_, e⟩ | ⟨hi, e⟩ <;> rw [e]
    · exact hr
    · exact (upd_other _ _ _ _ fun c => by rw [c, hi] at hr; cases hr).trans hr
  rcases step_cases h with ⟨_, hm⟩ | ⟨l, p, ht, hp, hts⟩
  · left
    cases hm with
    | start hm => exact hst _
    | _ => exact hr
  · cases hts with
    | start x rest => exact Or.inl (hst x)
    | finish st e =>
      by_cases c : d = l
      · right; rw [ht, c]; exact ⟨e, by simp only [finishing, hp]⟩
      · left; exact (upd_other _ _ _ _ c).trans hr
    | _ => exact Or.inl hr

theorem sleepsOn_frame {P : Params} {s s' : State} {t x : Tid} (inv : Inv P s) (h : step P s t = some s')
    (hx : x ≠ t) {d : Label} (hs : sleepsOn P s x = some d) : sleepsOn P s' x = some d := by
  -- a target thread other than `t` that waits keeps its program counter
  have keep : ∀ {y : Label} {l : Option Label}, Frame s s' l → some y ≠ l → sleepsOn P s (.tgt y) = some d →
      sleepsOn P s' (.tgt y) = some d := by
    intro y l fr hy hs
    obtain ⟨rest, es, hp⟩ := sleepsOn_tgt hs
    simp only [sleepsOn, fr.pc_some hy hp]
  rcases step_cases h with ⟨ht, hm⟩ | ⟨l, p, ht, hp, hts⟩
  · cases x with
    | main => exact absurd ht.symm hx
    | tgt y => exact keep (mstep_frame inv hm) (Option.some_ne_none y) hs
  · cases x with
    | main => simp only [sleepsOn, tstep_main hts] at hs ⊢; exact hs
    | tgt y => exact keep (tstep_frame inv hts) (fun c => hx (by rw [ht, Option.some.inj c])) hs

/-- `C04_no_lost_wakeup_status` as an invariant of the code's mode -/
def InvW (P : Params) (w : WState) : Prop :=
  ∀ t, w.wsleep t = true → ∃ d, sleepsOn P w.g.core t = some d ∧ w.g.core.status d = .running

theorem InvW.awake {P : Params} {w : WState} (iw : InvW P w) {t : Tid} (h : sleepsOn P w.g.core t = none) :
    w.wsleep t = false := by
  cases ha : w.wsleep t with
  | false => rfl
  | true => obtain ⟨d, hd, _⟩ := iw t ha; rw [hd] at h; cases h

theorem invW_gstep {P : Params} {w : WState} {g' : GState} {t : Tid} (hr : Reachable P w.g.core) (iw : InvW P w)
    (hg : gstep P w.g t = some g') (hawake : w.wsleep t = false) :
    ∀ x, w.wsleep x = true → ∃ d, sleepsOn P g'.core x = some d ∧
      (g'.core.status d = .running ∨ ∃ e, finishing w.g.core t = some (d, e)) := by
  intro x hx
  obtain ⟨d, hd, hrun⟩ := iw x hx
  have hxt : x ≠ t := by intro e; subst e; rw [hawake] at hx; cases hx
  rcases gstepV_core hg with e | e
  · rw [e]; exact ⟨d, hd, Or.inl hrun⟩
  · exact ⟨d, sleepsOn_frame hr.inv e hxt hd, status_frame e d hrun⟩

theorem invW_step {P : Params} {w w' : WState} {t : Tid} (hr : Reachable P w.g.core) (iw : InvW P w)
    (h : wstep P w t = some w') : InvW P w' := by
  cases wstep_cases h with
  | @sleep d hd ha hrun =>
    intro x hx
    by_cases e : x = t
    · rw [e]; exact ⟨d, hd, hrun⟩
    · exact iw x (by rw [← hx]; simp only [updT, if_neg e])
  | @pass d g' hd ha hs =>
    intro x hx
    obtain ⟨d', hd', h2 | ⟨e, hf⟩⟩ := invW_gstep hr iw hs ha x hx
    · exact ⟨d', hd', h2⟩
    · -- `t` waits, it is not about to store a status
      cases t with
      | main => cases hf
      | tgt y =>
        obtain ⟨rest, es, hp⟩ := sleepsOn_tgt hd
        simp only [finishing, hp] at hf; cases hf
  | @other g' hd hf hs =>
    intro x hx
    obtain ⟨d', hd', h2 | ⟨e, hf'⟩⟩ := invW_gstep hr iw hs (iw.awake hd) x hx
    · exact ⟨d', hd', h2⟩
    · rw [hf] at hf'; cases hf'
  | @finish l e g' hd hf hs =>
    intro x hx
    simp only [wwake, wbroadcast] at hx ⊢
    split at hx
    · cases hx
    next hnl =>
      obtain ⟨d', hd', h2 | ⟨e', hf'⟩⟩ := invW_gstep hr iw hs (iw.awake hd) x hx
      · exact ⟨d', hd', h2⟩
      · -- the status stored is that of `d'`, so `x` has just been woken
        rw [hf] at hf'; cases hf'
        exact absurd hd' hnl

theorem WReachable.invW {P : Params} {w : WState} (h : WReachable P w) : InvW P w := by
  induction h with
  | init => exact fun _ h => nomatch h
  | step t hr hs ih => exact invW_step hr.core ih hs

theorem w_stuck_all_done {P : Params} (hcap : 1 ≤ P.cap) {w : WState} (hr : WReachable P w)
    (hstuck : ∀ t, wstep P w t = none) :
    w.g.core.isDone = true ∧ ∀ l p, w.g.core.pc l = some p → p = .done := by
  refine g_stuck_all_done hcap hr.g fun t => ?_
  rcases wstep_blocked (hstuck t) with ha | h
  · -- a sleeper's target is running, so the thread is blocked at the gate level too
    obtain ⟨d, hd, hrun⟩ := hr.invW t ha
    exact wait_blocked hd hrun
  · exact h

end Dawn.Runner
