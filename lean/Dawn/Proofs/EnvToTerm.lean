import Dawn.Proofs.EnvTerms
/-!
The traversal as a term: `toTerm` follows `encVal` call by call and returns the tree of what is written instead of
the flat opcode list; `encVal_toTerm`: `encVal` writes exactly `serT` of that tree (when the batch loops do not
re-encode the container, i.e. after the repair of D2).
-/
namespace Dawn.Env

abbrev TRes := Except Err (EncSt × Term)

def tSeq (f : EncSt → Val → TRes) : EncSt → List Val → Except Err (EncSt × List Term)
  | st, [] => .ok (st, [])
  | st, x :: xs =>
    match f st x with
    | .error e => .error e
    | .ok (st1, t) =>
      match tSeq f st1 xs with
      | .error e => .error e
      | .ok (st2, ts) => .ok (st2, t :: ts)

def tupleOf (ts : List Term) : Term := .tuple (Terms.ofList ts)

def markerTerm (name : Bytes) (idx : Nat) : Term :=
  .host nameRecursive (tupleOf [.atom (.str name), .atom (.int idx)])

def toTerm (cfg : Cfg) (g : Heap) : Nat → EncSt → Val → TRes
  | _, st, .atom a => .ok (st, .atom a)
  | 0, _, .ref _ => .error .outOfFuel
  | fuel+1, st, .ref a =>
    match lookup st.memo a with
    | some id => .ok (st, .bg id)
    | none =>
      match g[a]? with
      | none => .error .badRef
      | some (.tuple xs) =>
        match tSeq (toTerm cfg g fuel) st xs with
        | .error e => .error e
        | .ok (st', ts) => .ok (st', tupleOf ts)
      | some (.set xs) =>
        match tSeq (toTerm cfg g fuel) (st.memoize cfg a) xs with
        | .error e => .error e
        | .ok (st', ts) => .ok (st', .set (Terms.ofList ts))
      | some (.dict kvs) =>
        match tSeq (toTerm cfg g fuel) (st.memoize cfg a) (flattenKvs kvs) with
        | .error e => .error e
        | .ok (st', ts) => .ok (st', .dict (Terms.ofList ts))
      | some (.list xs) =>
        match tSeq (toTerm cfg g fuel) (st.memoize cfg a) xs with
        | .error e => .error e
        | .ok (st', ts) => .ok (st', .list (Terms.ofList ts))
      | some (.target label) => .ok (st.memoize cfg a, .host nameTarget (tupleOf [.atom (.str label)]))
      | some (.builtin name recv) =>
        if cfg.builtinIdentity then
          match (if cfg.fixed then indexOf st.seen a else none) with
          | some idx => .ok (st.memoize cfg a, markerTerm name idx)
          | none =>
            let st0 := if cfg.fixed then { st with seen := st.seen ++ [a] } else st
            match toTerm cfg g fuel st0 recv with
            | .error e => .error e
            | .ok (st', t) => .ok (st'.memoize cfg a, .host nameBuiltin (tupleOf [.atom (.str name), t]))
        else .ok (st.memoize cfg a, .host nameBuiltin (tupleOf []))
      | some .mandatory =>
        if cfg.mandatory then .ok (st.memoize cfg a, .host nameMandatory (tupleOf [])) else .error .cannotPickle
      | some .other => .error .cannotPickle
      | some (.code name m gl bc sig) =>
        match (if cfg.fixed then indexOf st.seen a else none) with
        | some idx => .ok (st.memoize cfg a, markerTerm name idx)
        | none =>
          let st0 := if cfg.fixed then { st with seen := st.seen ++ [a] } else st
          match tSeq (toTerm cfg g fuel) st0 [m, gl] with
          | .error e => .error e
          | .ok (st1, ts1) =>
            if cfg.signature then
              match toTerm cfg g fuel st1 sig with
              | .error e => .error e
              | .ok (st', t2) => .ok (st'.memoize cfg a, .host nameCode (tupleOf (ts1 ++ [.atom (.bytes bc), t2])))
            else .ok (st1.memoize cfg a, .host nameCode (tupleOf (ts1 ++ [.atom (.bytes bc)])))
      | some (.func name d fv c) =>
        match (if cfg.fixed then indexOf st.seen a else none) with
        | some idx => .ok (st.memoize cfg a, markerTerm name idx)
        | none =>
          let st0 := if cfg.fixed then { st with seen := st.seen ++ [a] } else st
          match tSeq (toTerm cfg g fuel) st0 [d, fv, c] with
          | .error e => .error e
          | .ok (st', ts) => .ok (st'.memoize cfg a, .host nameFunc (tupleOf ts))

/-- what `encVal` returns when the traversal, seen as a term, returns `r` -/
def written (n : Nat) : TRes → Res
  | .error e => .error e
  | .ok (st, t) => .ok (st, serT n t)

def writtenSeq (n : Nat) : Except Err (EncSt × List Term) → Res
  | .error e => .error e
  | .ok (st, ts) => .ok (st, (ts.map (serT n)).flatten)

theorem ok_written {n : Nat} {r : TRes} {st : EncSt} {ops : List Op} (h : written n r = .ok (st, ops)) :
    ∃ t, r = .ok (st, t) ∧ serT n t = ops := by
  cases r with
  | error e => cases h
  | ok p => cases h; exact ⟨p.2, rfl, rfl⟩

theorem encSeq_tSeq (n : Nat) (f : EncSt → Val → Res) (f' : EncSt → Val → TRes)
    (hf : ∀ st x, f st x = written n (f' st x)) :
    ∀ xs st, encSeq f st xs = writtenSeq n (tSeq f' st xs) := by
  intro xs
  induction xs with
  | nil => intro st; rfl
  | cons x xs ih =>
    intro st
    simp only [encSeq, tSeq, hf]
    rcases f' st x with e | ⟨st1, t⟩
    · rfl
    · simp only [written, ih]
      rcases tSeq f' st1 xs with e | ⟨st2, ts⟩
      · rfl
      · simp [writtenSeq]

theorem tSeq_append (f : EncSt → Val → TRes) (a b : List Val) (st : EncSt) :
    tSeq f st (a ++ b) =
      match tSeq f st a with
      | .error e => .error e
      | .ok (st1, ta) =>
        match tSeq f st1 b with
        | .error e => .error e
        | .ok (st2, tb) => .ok (st2, ta ++ tb) := by
  induction a generalizing st with
  | nil =>
    simp only [List.nil_append, tSeq]
    rcases tSeq f st b with e | ⟨s, t⟩ <;> rfl
  | cons x a ih =>
    simp only [List.cons_append, tSeq, ih]
    rcases f st x with e | ⟨st1, t⟩
    · rfl
    · dsimp only
      rcases tSeq f st1 a with e | ⟨st2, ta⟩
      · rfl
      · dsimp only
        rcases tSeq f st2 b with e | ⟨st3, tb⟩ <;> rfl

theorem tSeq_length (f : EncSt → Val → TRes) (xs : List Val) (st st' : EncSt) (ts : List Term)
    (h : tSeq f st xs = .ok (st', ts)) : ts.length = xs.length := by
  induction xs generalizing st st' ts with
  | nil => cases h; rfl
  | cons x xs ih =>
    simp only [tSeq] at h
    split at h
    · cases h
    · next s₁ t hx =>
      split at h
      · cases h
      · next s₂ ts' hr => cases h; exact congrArg (· + 1) (ih _ _ _ hr)

/-- the batch loop without re-encoding: the state threads through all elements one after the other and the
opcodes are the batches of the per-element opcodes -/
theorem encBatches_tSeq (cfg : Cfg) (hre : cfg.reencode = false) (m n : Nat) (hm : m ≠ 0)
    (f : EncSt → Val → Res) (f' : EncSt → Val → TRes)
    (hf : ∀ st x, f st x = written n (f' st x)) (self : Nat) (close : Op) (xs : List Val) (first : Bool) (st : EncSt) :
      encBatches cfg f self close first st (chunks m xs) =
        (match tSeq f' st xs with
         | .error e => .error e
         | .ok (st', ts) => .ok (st', serBatches m close (ts.map (serT n)))) := by
  induction xs using chunks.induct m generalizing first st with
  | case1 xs h =>
    obtain rfl := h.resolve_left hm
    rw [chunks_stop _ _ h]
    simp only [encBatches, tSeq, serBatches, List.map_nil, chunks_stop _ _ (Or.inr rfl), List.flatMap_nil]
  | case2 xs h ih =>
    have hx := (not_or.mp h).2
    rw [chunks_step _ _ hm hx]
    simp only [encBatches, hre, Bool.not_false, Bool.or_true, ↓reduceIte, List.nil_append, encSeq_tSeq n f f' hf, ih]
    conv => rhs; rw [← List.take_append_drop m xs, tSeq_append]
    cases ha : tSeq f' st (xs.take m) with
    | error e => rfl
    | ok p =>
      obtain ⟨st1, ta⟩ := p
      simp only [writtenSeq]
      cases hb : tSeq f' st1 (xs.drop m) with
      | error e => rfl
      | ok q =>
        obtain ⟨st2, tb⟩ := q
        have hla := tSeq_length f' _ _ _ _ ha
        have hlb := tSeq_length f' _ _ _ _ hb
        rw [List.length_take] at hla
        rw [List.length_drop] at hlb
        have hpos := List.length_pos_iff.mpr hx
        have : chunks m ((ta ++ tb).map (serT n)) = ta.map (serT n) :: chunks m (tb.map (serT n)) := by
          rw [List.map_append]
          refine chunks_append m _ _ ?_ ?_ fun h => ?_ <;> simp only [List.length_map] at *
          · omega
          · omega
          · exact List.map_eq_nil_iff.mpr (List.eq_nil_of_length_eq_zero (by omega))
        simp only [serBatches, this, List.flatMap_cons, List.append_assoc]

theorem serT_tupleOf (n : Nat) (ts : List Term) :
    serT n (tupleOf ts) =
      (match ts.length with
       | 0 => [.emptyTuple]
       | 1 => (ts.map (serT n)).flatten ++ [.tuple1]
       | 2 => (ts.map (serT n)).flatten ++ [.tuple2]
       | 3 => (ts.map (serT n)).flatten ++ [.tuple3]
       | _ => [.mark] ++ (ts.map (serT n)).flatten ++ [.tuple]) := by
  simp only [tupleOf, serT, serTs_eq, Terms.toList_ofList, List.length_map]
  rfl

theorem serT_markerTerm (n : Nat) (name : Bytes) (idx : Nat) :
    serT n (markerTerm name idx) = hostHeader nameRecursive ++ [.str name, .int idx, .tuple2, .newobj, .memoize] := by
  simp [markerTerm, tupleOf, Terms.ofList, serT, serTs, encAtom]

/-- `encVal` writes the serialisation of the term `toTerm` returns -/
theorem encVal_toTerm (cfg : Cfg) (hre : cfg.reencode = false) (hb : cfg.batch ≠ 0) (g : Heap) :
    ∀ fuel st v, encVal cfg g fuel st v = written cfg.batch (toTerm cfg g fuel st v) := by
  intro fuel
  induction fuel with
  | zero => intro st v; cases v <;> rfl
  | succ fuel ih =>
    intro st v
    cases v with
    | atom a => rfl
    | ref a =>
      have hseq := encSeq_tSeq cfg.batch _ _ ih
      have hbat := fun m hm => encBatches_tSeq cfg hre m cfg.batch hm _ _ ih a
      unfold encVal toTerm
      cases lookup st.memo a with
      | some id => rfl
      | none =>
        cases g[a]? with
        | none => rfl
        | some o =>
          cases o with
          | tuple xs =>
            simp only [hseq]
            cases hs : tSeq (toTerm cfg g fuel) st xs with
            | error e => rfl
            | ok p =>
              obtain ⟨st', ts⟩ := p
              simp only [writtenSeq, written, serT_tupleOf, tSeq_length _ _ _ _ _ hs]
              -- both sides are now the same `match` on the length, with different matchers
              generalize xs.length = k
              match k with
              | 0 | 1 | 2 | 3 => rfl
              | k + 4 => rfl
          | set xs =>
            simp only [hbat _ hb]
            rcases tSeq (toTerm cfg g fuel) (st.memoize cfg a) xs with e | ⟨s, ts⟩
            · rfl
            · simp only [written, serT, serTs_eq, Terms.toList_ofList]
          | dict kvs =>
            simp only [chunks_flattenKvs, hbat (2 * cfg.batch) (by omega)]
            rcases tSeq (toTerm cfg g fuel) (st.memoize cfg a) (flattenKvs kvs) with e | ⟨s, ts⟩
            · rfl
            · simp only [written, serT, serTs_eq, Terms.toList_ofList]
          | list xs =>
            rcases xs with _ | ⟨x, _ | ⟨y, rest⟩⟩
            · rfl
            · simp only [ih, tSeq]
              rcases toTerm cfg g fuel (st.memoize cfg a) x with e | ⟨s, t⟩
              · rfl
              · simp only [written, serT, serTs, Terms.ofList]
            · simp only [hbat _ hb]
              cases hs : tSeq (toTerm cfg g fuel) (st.memoize cfg a) (x :: y :: rest) with
              | error e => rfl
              | ok p =>
                obtain ⟨st', ts⟩ := p
                rcases ts with _ | ⟨t₁, _ | ⟨t₂, ts⟩⟩
                · cases tSeq_length _ _ _ _ _ hs
                · cases tSeq_length _ _ _ _ _ hs
                · simp only [written, serT, serTs_eq, Terms.toList_ofList, List.map]
          | target label => rfl
          | mandatory =>
            cases cfg.mandatory <;> rfl
          | other => rfl
          | builtin name recv =>
            simp only [ih]
            cases cfg.builtinIdentity
            · rfl
            · simp only [↓reduceIte]
              cases (if cfg.fixed = true then indexOf st.seen a else none) with
              | some idx => simp only [written, serT_markerTerm]
              | none =>
                rcases toTerm cfg g fuel (if cfg.fixed = true then { st with seen := st.seen ++ [a] } else st) recv with e | ⟨s, t⟩
                · rfl
                · simp [written, serT, serTs, tupleOf, Terms.ofList, hostHeader, encAtom]
          | code name m gl bc sig =>
            simp only [hseq]
            cases (if cfg.fixed = true then indexOf st.seen a else none) with
            | some idx => simp only [written, serT_markerTerm]
            | none =>
              cases hs : tSeq (toTerm cfg g fuel) (if cfg.fixed = true then { st with seen := st.seen ++ [a] } else st) [m, gl] with
              | error e => rfl
              | ok p =>
                obtain ⟨s₁, ts⟩ := p
                obtain ⟨t₁, t₂, rfl⟩ := length_two (tSeq_length _ _ _ _ _ hs)
                simp only [writtenSeq, ih]
                cases cfg.signature
                · simp [written, serT, serTs, tupleOf, Terms.ofList, hostHeader, encAtom]
                · simp only [↓reduceIte]
                  rcases toTerm cfg g fuel s₁ sig with e | ⟨s, t⟩
                  · rfl
                  · simp [written, serT, serTs, tupleOf, Terms.ofList, hostHeader, encAtom]
          | func name d fv c =>
            simp only [hseq]
            cases (if cfg.fixed = true then indexOf st.seen a else none) with
            | some idx => simp only [written, serT_markerTerm]
            | none =>
              cases hs : tSeq (toTerm cfg g fuel) (if cfg.fixed = true then { st with seen := st.seen ++ [a] } else st) [d, fv, c] with
              | error e => rfl
              | ok p =>
                obtain ⟨s₁, ts⟩ := p
                obtain ⟨t₁, t₂, t₃, rfl⟩ := length_three (tSeq_length _ _ _ _ _ hs)
                simp [writtenSeq, written, serT, serTs, tupleOf, Terms.ofList, hostHeader]

end Dawn.Env
