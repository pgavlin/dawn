import Dawn.Proofs.MvsBuildList
/-!
# The specification side of C10 / C11: reachability in the universe, independently of any algorithm
-/
namespace Dawn.Mvs

/-- reachable through requirements from the root requirement set of a project file -/
inductive UReach (e : Env) (roots : List Mod) : Mod → Prop where
  | root (m : Mod) : m ∈ roots → UReach e roots m
  | step (n m : Mod) (s : Summary) : UReach e roots n → e.summary n = some s → m ∈ s.reqs → UReach e roots m

/-- what a loaded project file guarantees (`LoadConfigBytes`): every requirement names a project (`CleanPath` never
yields `""`) at a canonical version -/
def okReq (m : Mod) : Prop := m.path ≠ "" ∧ ∃ s, m.ver = .sv s

structure WellFormed (e : Env) (roots : List Mod) : Prop where
  roots_ok : ∀ m ∈ roots, okReq m
  reqs_ok : ∀ n s, e.summary n = some s → ∀ m ∈ s.reqs, okReq m

theorem okReq_ver_ne_none {m : Mod} (h : okReq m) : m.ver ≠ .none := by
  obtain ⟨_, s, hs⟩ := h; rw [hs]; simp

theorem ureach_ok {e : Env} {roots : List Mod} (hwf : WellFormed e roots) {m : Mod} (h : UReach e roots m) : okReq m := by
  cases h with
  | root _ hm => exact hwf.roots_ok m hm
  | step n _ s _ hs hm => exact hwf.reqs_ok n s hs m hm

theorem ureach_mono {e : Env} {r1 r2 : List Mod} (h : ∀ m ∈ r1, m ∈ r2) {m : Mod} (hm : UReach e r1 m) : UReach e r2 m := by
  induction hm with
  | root m hm => exact UReach.root m (h m hm)
  | step a b s _ hs hb ih => exact UReach.step a b s ih hs hb

theorem dawnReqs_required_of_ok (e : Env) (root : List Mod) {a : Mod} (h : okReq a) :
    (dawnReqs e root).required a = (e.summary a).map (·.reqs) := by
  simp [dawnReqs, h.1]

theorem dawnReqs_required_some {e : Env} {root : List Mod} {a : Mod} {r : List Mod} (h : okReq a) :
    (dawnReqs e root).required a = some r ↔ ∃ s, e.summary a = some s ∧ s.reqs = r := by
  rw [dawnReqs_required_of_ok e root h, Option.map_eq_some_iff]

theorem dawnReqs_required_congr (e : Env) (r1 r2 : List Mod) {n : Mod} (hp : n.path ≠ "") :
    (dawnReqs e r1).required n = (dawnReqs e r2).required n := by
  simp only [dawnReqs, if_neg hp]

theorem reach_dawn_iff {e : Env} {roots : List Mod} (hwf : WellFormed e roots) (m : Mod) :
    Reach (dawnReqs e roots) .none rootMod m ↔ m = rootMod ∨ UReach e roots m := by
  constructor
  · intro h
    induction h with
    | root => exact Or.inl rfl
    | step a b _ hb ih =>
      obtain ⟨_, r, hr, hbr⟩ := (mem_edges_plain _ a b).mp hb
      rcases ih with rfl | ih
      · cases hr; exact Or.inr (UReach.root b hbr)
      · obtain ⟨s, hs, rfl⟩ := (dawnReqs_required_some (ureach_ok hwf ih)).mp hr
        exact Or.inr (UReach.step a b s ih hs hbr)
  · rintro (rfl | h)
    · exact Reach.root
    · induction h with
      | root m hm =>
        exact Reach.root.req nofun rfl hm
      | step a b s ha hs hb ih =>
        have hok := ureach_ok hwf ha
        exact ih.req (okReq_ver_ne_none hok) ((dawnReqs_required_some hok).mpr ⟨s, hs, rfl⟩) hb

theorem reach_dawn_path {e : Env} {roots : List Mod} (hwf : WellFormed e roots) {p : String} (hp : p ≠ "") (w : Ver) :
    Reach (dawnReqs e roots) .none rootMod ⟨p, w⟩ ↔ UReach e roots ⟨p, w⟩ :=
  (reach_dawn_iff hwf _).trans (or_iff_right fun h => hp (congrArg Mod.path h))

theorem reach_dawn_root {e : Env} {roots : List Mod} (hwf : WellFormed e roots) (w : Ver) :
    Reach (dawnReqs e roots) .none rootMod ⟨"", w⟩ ↔ w = .root :=
  (reach_dawn_iff hwf _).trans
    ⟨fun h => h.elim (congrArg Mod.ver) fun h => absurd rfl (ureach_ok hwf h).1, fun h => Or.inl (h ▸ rfl)⟩

theorem buildList_dawn_mem {e : Env} {roots bl : List Mod} {fuel : Nat} (hwf : WellFormed e roots)
    (h : buildList fuel (dawnReqs e roots) rootMod = .ok bl) (m : Mod) :
    m ∈ bl ↔ m = rootMod ∨ (UReach e roots m ∧ ∀ w, UReach e roots ⟨m.path, w⟩ → Ver.le w m.ver) := by
  obtain ⟨p, v⟩ := m
  rw [buildListWith_exact h]
  by_cases hp : p = ""
  · subst hp
    simp only [reach_dawn_root hwf]
    constructor
    · rintro ⟨_, rfl, _⟩; exact Or.inl rfl
    · rintro (h | ⟨h, _⟩)
      · cases h; exact ⟨nofun, rfl, fun w hw => hw ▸ Ver.le_refl _⟩
      · exact absurd rfl (ureach_ok hwf h).1
  · simp only [reach_dawn_path hwf hp]
    constructor
    · rintro ⟨_, h1, h2⟩; exact Or.inr ⟨h1, h2⟩
    · rintro (h | ⟨h1, h2⟩)
      · exact absurd (congrArg Mod.path h) hp
      · exact ⟨okReq_ver_ne_none (ureach_ok hwf h1), h1, h2⟩

end Dawn.Mvs
