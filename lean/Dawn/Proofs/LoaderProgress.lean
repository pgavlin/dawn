import Dawn.Proofs.LoaderDeadlock
/-!
What stands between deadlock freedom and termination of the fixed loader, in three parts.

1. A measure `μ` on the states of a project whose reachable modules are all below `N` that every step other than a
   chain-walk read strictly decreases; a chain-walk read leaves it unchanged (`progress_fstep`, `walk_read_mu`).
2. A chain walk that no other goroutine disturbs makes at most `N` reads, unless the `loading` fields contain a cycle
   (`walk_bounded`).
3. Such a cycle is being detected: the module on it that published last is the top frame of a goroutine that is not in
   the condition wait and can take a step (`cycle_detector`; from `Inv3` and `Inv6`, `μ` plays no part).

`μ = Σ_{m < N, m not yet registered} W m  +  Σ_{goroutines t} (rank (pc t) + Σ_{frames f of t} (9·|f.todo| + 2))`:
registering a module releases its budget `W m`, which pays for pushing its frame and executing its body; every completed
`load` statement shortens a `todo` list; within one `load` the program counter moves down the ranks.
Where the constants come from: a completed `load` statement takes the program counter from `unset` (2) back up to `run`
(10), so an entry of `todo` weighs 9 = 10 − 2 + 1; `done` goes up from `fin` (1) to `unset` (2), so a frame weighs 2 on top,
released when it is popped; `load d` (14 + 9·|loads d|) exceeds what it leaves behind, `run` and the new frame
(10 + 9·|loads d| + 2); `setNew d` is one above `load d`; and `W d = 16 + 9·|loads d|` exceeds the way up from `call d` (9)
to `setNew d`.
-/
namespace Dawn.Loader

def sumTo : Nat → (Nat → Nat) → Nat
  | 0, _ => 0
  | n + 1, h => sumTo n h + h n

theorem sumTo_congr {n : Nat} {h h' : Nat → Nat} (e : ∀ i, i < n → h' i = h i) : sumTo n h' = sumTo n h := by
  induction n with
  | zero => rfl
  | succ n ih => simp only [sumTo]; rw [ih (fun i hi => e i (by omega)), e n (by omega)]

theorem sumTo_update {n : Nat} {h h' : Nat → Nat} {t : Nat} (ht : t < n) (hoth : ∀ i, i ≠ t → h' i = h i) :
    sumTo n h' + h t = sumTo n h + h' t := by
  induction n with
  | zero => omega
  | succ n ih =>
    simp only [sumTo]
    by_cases e : t = n
    · subst e
      rw [sumTo_congr (h := h) (h' := h') (fun i hi => hoth i (by omega))]
      omega
    · have := ih (by omega)
      rw [hoth n (Ne.symm e)]
      omega

/-- rank of a program counter: decreases along the statements of one `load` -/
def rank (P : Project) : PC → Nat
  | .finished => 0
  | .fin _ => 1
  | .unset _ => 2
  | .sleep _ => 3
  | .check _ => 4
  | .wlock _ => 5
  | .walk _ _ => 6
  | .enter _ => 7
  | .setFound _ => 8
  | .call _ => 9
  | .run => 10
  | .load d => 14 + 9 * (P.loads d).length
  | .setNew d => 15 + 9 * (P.loads d).length

def frameCost (f : Frame) : Nat := 9 * f.todo.length + 2

def stackCost : List Frame → Nat
  | [] => 0
  | f :: rest => frameCost f + stackCost rest

def threadCost (P : Project) (s : State) (t : Tid) : Nat := rank P (s.pc t) + stackCost (s.stack t)

/-- budget of a module that has not been registered yet -/
def regCost (P : Project) (s : State) (m : Mod) : Nat := if s.registry m then 0 else 16 + 9 * (P.loads m).length

/-- the termination measure of a project whose reachable modules are all `< N` -/
def mu (P : Project) (N : Nat) (s : State) : Nat :=
  sumTo N (regCost P s) + sumTo P.roots.length (threadCost P s)

/-- all modules the project can reach are below `N` -/
def Bounded (P : Project) (N : Nat) : Prop := ∀ m, Reach P m → m < N

theorem bounded_of_edges {P : Project} {N : Nat} (hr : ∀ r ∈ P.roots, r < N) (he : ∀ a b, b ∈ P.loads a → b < N) :
    Bounded P N := by
  have hp : ∀ {a b}, Path P a b → b < N := fun p => by
    induction p with
    | edge e => exact he _ _ e
    | cons _ _ ih => exact ih
  exact fun m ⟨r, hr', h⟩ => h.elim (· ▸ hr r hr') hp

/-- the step thread `t` is about to take is a chain-walk read (`loading = loading.getLoading()`) -/
def isWalkRead (s : State) (t : Tid) : Prop := ∃ d c, s.pc t = .walk d (some c) ∧ top s t ≠ some c

theorem threads_cost {P : Project} {s s' : State} {t : Tid} (ht : t < P.roots.length)
    (hfr : ∀ t', t' = t ∨ (s'.pc t' = s.pc t' ∧ s'.stack t' = s.stack t')) :
    sumTo P.roots.length (threadCost P s') + threadCost P s t = sumTo P.roots.length (threadCost P s) + threadCost P s' t :=
  sumTo_update ht fun i hi => (hfr i).elim (absurd · hi) fun ⟨hp, hs⟩ => by simp only [threadCost, hp, hs]

theorem mu_thread {P : Project} {N : Nat} {s s' : State} {t : Tid} (ht : t < P.roots.length)
    (hfr : ∀ t', t' = t ∨ (s'.pc t' = s.pc t' ∧ s'.stack t' = s.stack t')) (hreg : s'.registry = s.registry) :
    mu P N s' + threadCost P s t = mu P N s + threadCost P s' t := by
  have h1 : regCost P s' = regCost P s := funext fun m => by simp only [regCost, hreg]
  have h2 := threads_cost ht hfr
  simp only [mu, h1]
  omega

theorem fstep_tid {P : Project} {s s' : State} {t : Tid} (inv1 : Inv1 P s) (st : FStep P s t s') :
    t < P.roots.length :=
  Nat.lt_of_not_le fun h => st.pc_ne_finished (inv1.idle t h)

theorem progress_fstep {P : Project} {N : Nat} {s s' : State} {t : Tid} (hb : Bounded P N) (inv1 : Inv1 P s)
    (inv4 : Inv4 P s) (invA : InvA s) (st : FStep P s t s') (hw : ¬ isWalkRead s t) :
    mu P N s' < mu P N s := by
  have ht := fstep_tid inv1 st
  -- apart from registering a module, a step changes `μ` by the stepping goroutine's own cost
  have own : s'.registry = s.registry → threadCost P s' t < threadCost P s t → mu P N s' < mu P N s := fun hreg h => by
    have := mu_thread (N := N) ht st.frame hreg
    omega
  have h2 := threads_cost ht st.frame
  cases st
  case callNew d hpc hr =>
    -- registering `d` releases its budget
    have hd : d < N := hb d (inv4.tgt_reach inv1 t d (by simp [hpc, target]))
    have h1 := sumTo_update (n := N) (h := regCost P s)
      (h' := regCost P { s with registry := upd s.registry d true, pc := upd s.pc t (.setNew d) }) hd
      (fun i hi => by simp [regCost, upd, hi])
    simp only [mu]
    simp only [regCost, upd_same, hr, threadCost, hpc, rank, Bool.false_eq_true, ↓reduceIte] at h1 h2
    omega
  case wakeAgain d hpc hna hl =>
    -- a woken goroutine finds the module loaded
    rcases invA.woken t d hpc with h | h
    · simp [h] at hna
    · rw [hl] at h; cases h
  case walkNext d c hpc htop => exact absurd ⟨d, c, hpc, htop⟩ hw
  case unsetOk f rest hpc hst =>
    have := List.length_pos_iff.2 (inv1.unset_frame t f rest .ok hst hpc)
    refine own rfl ?_
    simp [threadCost, hpc, hst, rank, stackCost, frameCost]
    omega
  case load d hpc => refine own rfl ?_; simp [threadCost, hpc, rank, stackCost, frameCost]; omega
  case fin r f rest hpc hst => refine own rfl ?_; simp [threadCost, hpc, hst, rank, stackCost, frameCost]; omega
  -- the other steps move down the ranks within one `load`
  all_goals
    refine own rfl ?_
    simp [threadCost, setPc, publish, goSleep, rank, *]

theorem walk_read_mu {P : Project} {N : Nat} {s : State} {t : Tid} {d c : Mod} (ht : t < P.roots.length)
    (hpc : s.pc t = .walk d (some c)) (htop : top s t ≠ some c) :
    mu P N (setPc s t (.walk d (s.loading c))) = mu P N s := by
  have := mu_thread (N := N) ht (FStep.walkNext (P := P) d c hpc htop).frame rfl
  simp [threadCost, setPc, hpc, rank] at this ⊢
  omega

/-- the module reached from `c` by exactly `j` hops along the `loading` fields -/
def ptrAt (s : State) (c : Mod) : Nat → Option Mod
  | 0 => some c
  | j + 1 => (ptrAt s c j).bind s.loading

/-- the `loading` fields contain a cycle -/
def PtrCycle (s : State) : Prop := ∃ y j, 0 < j ∧ ptrAt s y j = some y

theorem ptrAt_add (s : State) (c : Mod) (i k : Nat) : ptrAt s c (i + k) = (ptrAt s c i).bind (fun m => ptrAt s m k) := by
  induction k with
  | zero => simp [ptrAt]
  | succ k ih =>
    rw [← Nat.add_assoc, ptrAt, ih]
    cases ptrAt s c i <;> simp [ptrAt]

theorem ptrAt_succ_first (s : State) (c : Mod) (j : Nat) : ptrAt s c (j + 1) = (s.loading c).bind (fun m => ptrAt s m j) := by
  rw [Nat.add_comm, ptrAt_add]
  rfl

theorem ptrAt_setPc (s : State) (t : Tid) (p : PC) (c : Mod) (j : Nat) : ptrAt (setPc s t p) c j = ptrAt s c j := by
  induction j with
  | zero => rfl
  | succ j ih => simp only [ptrAt, ih]; rfl

/-- `k` consecutive chain-walk reads of goroutine `t` with no step of any other goroutine in between -/
inductive SoloReads (t : Tid) : State → Nat → State → Prop where
  | zero (s : State) : SoloReads t s 0 s
  | succ {s s'' : State} {d c : Mod} {k : Nat} : s.pc t = .walk d (some c) → top s t ≠ some c →
      SoloReads t (setPc s t (.walk d (s.loading c))) k s'' → SoloReads t s (k + 1) s''

theorem soloReads_positions {t : Tid} {s s' : State} {k : Nat} (h : SoloReads t s k s') :
    ∀ d cur, s.pc t = .walk d cur → ∀ j, j < k → (cur.bind (ptrAt s · j)).isSome := by
  induction h with
  | zero => intro _ _ _ j hj; cases hj
  | @succ s s'' d0 c0 k hpc htop hrest ih =>
    intro d cur hpc' j hj
    cases hpc.symm.trans hpc'
    cases j with
    | zero => rfl
    | succ j =>
      -- the next position is `loading c0`, from which the remaining reads start
      have := ih d0 (s.loading c0) (by simp [setPc]) j (by omega)
      simpa only [Option.bind_some, ptrAt_succ_first, ptrAt_setPc] using this

theorem ptrAt_reach {P : Project} {s : State} (inv1 : Inv1 P s) (inv3 : Inv3 s) {c : Mod}
    (hc : Reach P c) : ∀ j m, ptrAt s c j = some m → Reach P m := by
  intro j
  induction j with
  | zero => intro m h; cases h; exact hc
  | succ j ih =>
    intro m h
    obtain ⟨y, hp, h⟩ := Option.bind_eq_some_iff.1 h
    exact (ih y hp).step (loading_edge inv1 inv3 h).1

/-- the first `N + 1` positions of the walk are modules below `N`, so two of them coincide -/
theorem walk_bounded {P : Project} {N : Nat} {s s' : State} {t : Tid} {k : Nat} (hb : Bounded P N)
    (hr : Reachable .fixed P s) (h : SoloReads t s k s') : k ≤ N ∨ PtrCycle s := by
  by_cases hk : k ≤ N
  · exact .inl hk
  · right
    cases h with
    | zero => exact absurd (Nat.zero_le N) hk
    | @succ _ _ d c k' hpc htop hrest =>
      have hpos := soloReads_positions (.succ hpc htop hrest) d _ hpc
      have hc : Reach P c :=
        ((inv4_reachable hr).tgt_reach (inv1_reachable hr) t d (by simp [hpc, target])).path ((inv4_reachable hr).walk_path t d c hpc)
      have hnode : ∀ j, j ≤ N → ∃ m, ptrAt s c j = some m ∧ m < N := fun j hj => by
        obtain ⟨m, hm⟩ := Option.isSome_iff_exists.1 (hpos j (by omega))
        exact ⟨m, hm, hb m (ptrAt_reach (inv1_reachable hr) (inv3_reachable hr) hc _ m hm)⟩
      obtain ⟨i, j, hij, hjN, e⟩ := Dawn.pigeonhole (fun j => (ptrAt s c j).getD 0) (List.range N) fun j hj => by
        obtain ⟨m, hm, hlt⟩ := hnode j (by simpa using hj); simpa [hm] using hlt
      rw [List.length_range] at hjN
      obtain ⟨y, hy, _⟩ := hnode i (by omega)
      obtain ⟨z, hz, _⟩ := hnode j hjN
      simp only [hy, hz, Option.getD_some] at e
      refine ⟨y, j - i, by omega, ?_⟩
      have := ptrAt_add s c i (j - i)
      rw [show i + (j - i) = j by omega, hz, hy, ← e] at this
      exact this.symm

theorem PtrCycle.max {s : State} (h : PtrCycle s) :
    ∃ x j, 0 < j ∧ ptrAt s x j = some x ∧ ∀ i z, ptrAt s x i = some z → s.ptime z ≤ s.ptime x := by
  obtain ⟨y, j, hj, hy⟩ := h
  have hper : ∀ i, ptrAt s y (i + j) = ptrAt s y i := fun i => by rw [Nat.add_comm, ptrAt_add, hy]; rfl
  -- an undefined position weighs less than any defined one, so the heaviest position is defined
  obtain ⟨m, hmax⟩ := periodic_max (ptrAt s y) (fun o => (o.map (s.ptime · + 1)).getD 0) j hj hper
  cases hx : ptrAt s y m with
  | none => have := hmax 0; simp [hx, ptrAt] at this
  | some x =>
    have shift : ∀ i, ptrAt s x i = ptrAt s y (m + i) := fun i => by rw [ptrAt_add, hx]; rfl
    refine ⟨x, j, hj, by rw [shift, hper, hx], fun i z hz => ?_⟩
    have := hmax (m + i)
    rw [← shift, hz, hx] at this
    simpa using this

theorem seg_of_ptr {s : State} (inv3 : Inv3 s) {x : Mod} (hx : s.loading x ≠ none) :
    ∀ n a, ptrAt s a n = some x → (∀ i z, ptrAt s a i = some z → s.ptime z ≤ s.ptime x) → a ≠ x → Seg s x a x := by
  intro n
  induction n with
  | zero => intro a h _ hne; cases h; exact absurd rfl hne
  | succ n ih =>
    intro a h hle hne
    rw [ptrAt_succ_first] at h
    obtain ⟨b, hl, h⟩ := Option.bind_eq_some_iff.1 h
    have hlt : s.ptime a < s.ptime x :=
      Nat.lt_of_le_of_ne (hle 0 a rfl) fun e => hne (inv3.ptime_inj a x (by simp [hl]) hx e)
    by_cases hb : b = x
    · exact .one (hb ▸ hl) hlt
    · refine .more hl hlt (ih b h (fun i z hz => hle (i + 1) z ?_) hb)
      rw [ptrAt_succ_first, hl]; exact hz

theorem lower_older {s : State} : ∀ {stk : List Frame} {p : Option Mod}, chainOK s.loading p stk →
    stk.Pairwise (fun u l => s.loading u.mod ≠ none → s.ptime l.mod < s.ptime u.mod) →
    ∀ a ∈ stk.tail, ∃ b : Frame, s.loading a.mod = some b.mod ∧ (s.loading b.mod ≠ none → s.ptime a.mod < s.ptime b.mod)
  | [], _, _, _, _, ha => nomatch ha
  | [_], _, _, _, _, ha => nomatch ha
  | b :: a' :: rest, _, hc, ho, a, ha => by
    rcases List.mem_cons.1 ha with rfl | ha
    · exact ⟨b, hc.2.1, (List.pairwise_cons.1 ho).1 a (by simp)⟩
    · exact lower_older hc.2 (List.pairwise_cons.1 ho).2 a ha

/-- The module that published last on the cycle is a top frame (a frame above it would have published later,
`lower_older`), and by `Inv6.wait_safe` its goroutine is not in the condition wait. (Not part of the statement: by
`Inv6.walk_on` its walk stays on the old path back to its own module.) -/
theorem cycle_detector {P : Project} {s : State} (hr : Reachable .fixed P s) (hc : PtrCycle s) :
    ∃ u f rest d, s.stack u = f :: rest ∧ s.loading f.mod = some d ∧
      (s.pc u = .enter d ∨ (∃ cur, s.pc u = .walk d cur) ∨ ∃ r, s.pc u = .unset r) ∧
      ∃ s', next .fixed P s u = some s' := by
  have lf := lockFree_reachable hr
  have inv1 := inv1_reachable hr
  have inv3 := inv3_reachable hr
  obtain ⟨x, j, hj, hx, hmax⟩ := hc.max
  -- `x` points to `d`, from where the rest of the cycle leads back to `x` through modules that published before `x`
  obtain ⟨d, hxl, hback⟩ : ∃ d, s.loading x = some d ∧ ptrAt s d (j - 1) = some x := by
    rw [← Nat.sub_add_cancel hj, ptrAt_succ_first] at hx
    exact Option.bind_eq_some_iff.1 hx
  have hdmax : ∀ i z, ptrAt s d i = some z → s.ptime z ≤ s.ptime x :=
    fun i z hz => hmax (i + 1) z (by rw [ptrAt_succ_first, hxl]; exact hz)
  have hseg : OnPath s x d := by
    by_cases hd : d = x
    · exact .inl hd
    · exact .inr (seg_of_ptr inv3 (by simp [hxl]) _ d hback hdmax hd)
  have hdptr : s.loading d ≠ none := by
    rcases hseg with rfl | (⟨h, _⟩ | ⟨h, _, _⟩) <;> simp [*]
  -- `x` sits in a frame; it is the top frame, because the frame above it would be `d`, which published before `x`
  obtain ⟨_, u, f, hf, rfl⟩ := loading_edge inv1 inv3 hxl
  cases hs : s.stack u with
  | nil => rw [hs] at hf; cases hf
  | cons g rest =>
    have hch := inv3.chain u g rest hs
    obtain rfl : f = g := by
      rcases List.mem_cons.1 (hs ▸ hf) with e | hlow
      · exact e
      · obtain ⟨b, hb, hlt⟩ := lower_older hch (hs ▸ inv3.order u) f hlow
        cases hxl.symm.trans hb
        have := hlt hdptr
        have := hdmax 0 _ rfl
        omega
    have hptr : topPtr (s.pc u) f = some d := by rw [← hch.1, hxl]
    -- so the goroutine is not in the condition wait, and it has not just registered `d`
    have hsafe := (inv6_reachable hr).wait_safe u f rest d hs
    have hnowait : ¬ (s.pc u = .wlock d ∨ s.pc u = .sleep d) := fun hw => hseg.elim (hsafe hw).1 (hsafe hw).2
    have hpc3 : s.pc u = .enter d ∨ (∃ cur, s.pc u = .walk d cur) ∨ ∃ r, s.pc u = .unset r := by
      cases hpc : s.pc u <;> simp only [hpc, topPtr, reduceCtorEq, Option.some.injEq] at hptr
      case load d' =>
        -- `d` is claimed but not yet in any frame, so it has no pointer
        exact absurd (inv3.free_none d' ((inv2_reachable hr).new_fresh u d' (.inr hpc)).2.2) (hptr ▸ hdptr)
      case enter d' => exact .inl (hptr ▸ rfl)
      case walk d' cur => exact .inr (.inl ⟨cur, hptr ▸ rfl⟩)
      case check d' => exact absurd hpc (lf.2 u d')
      case wlock d' => exact absurd (.inl (hptr ▸ hpc)) hnowait
      case sleep d' => exact absurd (.inr (hptr ▸ hpc)) hnowait
      case unset r => exact .inr (.inr ⟨r, rfl⟩)
    obtain ⟨s', st⟩ := fstep_exists (t := u) lf (by rcases hpc3 with h | ⟨_, h⟩ | ⟨_, h⟩ <;> simp [h]) (inv1.body u)
      fun d' h' => by rcases hpc3 with h | ⟨_, h⟩ | ⟨_, h⟩ <;> simp [h] at h'
    exact ⟨u, f, rest, d, hs, hxl, hpc3, s', next_of_fstep lf st⟩

end Dawn.Loader
