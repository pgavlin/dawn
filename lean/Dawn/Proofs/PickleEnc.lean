import Dawn.Model.Pickle
/-! The encoder model by itself. Its fuel is not an input: a call that succeeds needs no more fuel than it was given,
and no more than one unit per address it hands out plus one; with that much it gives the same answer (`Needs`, one
notion for `encVal` and for the loops over it). -/
namespace Dawn.Pickle

abbrev Enc (α : Type) := EncSt → α → Option (EncSt × List Op)

theorem encVal_atom (cfg : EncCfg) (g : Heap) (n : Nat) (st : EncSt) (a : Atom) :
    encVal cfg g n st (.atom a) = some (st, [encAtom a]) := by cases n <;> rfl

theorem encSeq_cons (f : Enc Val) (st : EncSt) (x : Val) (xs : List Val) :
    encSeq f st (x :: xs) = (f st x).bind fun p => (encSeq f p.1 xs).map fun q => (q.1, p.2 ++ q.2) := by
  rw [encSeq]
  cases f st x with
  | none => rfl
  | some p => cases h : encSeq f p.1 xs <;> simp only [h, Option.bind_some, Option.map_none, Option.map_some]

theorem encBatches_cons (f : Enc Val) (rb : Bool) (self close : Op) (first : Bool) (st : EncSt) (b : List Val)
    (bs : List (List Val)) :
    encBatches f rb self close first st (b :: bs) = (encSeq f st b).bind fun p =>
      (encBatches f rb self close false p.1 bs).map fun q =>
        (q.1, (if !first && rb then [self] else []) ++ [Op.mark] ++ p.2 ++ [close] ++ q.2) := by
  rw [encBatches]
  cases encSeq f st b with
  | none => rfl
  | some p =>
    cases h : encBatches f rb self close false p.1 bs <;>
      simp only [h, Option.bind_some, Option.map_none, Option.map_some]

theorem chunks_flatten {α : Type} (n : Nat) (hn : 0 < n) : ∀ (fuel : Nat) (xs : List α), xs.length ≤ fuel →
    (chunks n fuel xs).flatten = xs := by
  intro fuel
  induction fuel with
  | zero => intro xs h; cases xs <;> simp_all [chunks]
  | succ fuel ih =>
    intro xs h
    cases xs with
    | nil => simp [chunks]
    | cons x xs =>
      simp only [chunks, List.flatten_cons]
      rw [ih _ (by simp only [List.length_drop, List.length_cons] at h ⊢; omega)]
      exact List.take_append_drop n (x :: xs)

theorem chunks_mem {α : Type} (n : Nat) : ∀ (fuel : Nat) (xs : List α), ∀ c ∈ chunks n fuel xs, ∀ x ∈ c, x ∈ xs := by
  intro fuel
  induction fuel with
  | zero => intro xs c hc; simp [chunks] at hc
  | succ fuel ih =>
    intro xs c hc x hx
    cases xs with
    | nil => simp [chunks] at hc
    | cons y ys =>
      simp only [chunks, List.mem_cons] at hc
      rcases hc with rfl | hc
      · exact List.mem_of_mem_take hx
      · exact List.mem_of_mem_drop (ih _ c hc x hx)

theorem chunks_two {α : Type} (n : Nat) (xs : List α) (h1 : n < xs.length) (h2 : xs.length ≤ 2 * n) :
    chunks n xs.length xs = [xs.take n, xs.drop n] := by
  obtain ⟨x, t, rfl⟩ := List.exists_cons_of_length_pos (Nat.zero_lt_of_lt h1)
  have hl : ((x :: t).drop n).length = (x :: t).length - n := List.length_drop
  rw [List.length_cons] at h1 h2 hl ⊢
  rw [chunks]
  cases hdr : (x :: t).drop n with
  | nil => rw [hdr] at hl; simp only [List.length_nil] at hl; omega
  | cons y ys =>
    rw [hdr] at hl
    obtain ⟨m, hm⟩ : ∃ m, t.length = m + 1 := ⟨t.length - 1, by omega⟩
    have hys : (y :: ys).length ≤ n := by omega
    rw [hm, chunks, List.drop_eq_nil_of_le hys, List.take_of_length_le hys]
    cases m <;> rfl

/-- Every success of `c` hands out addresses, and is a success of `C k`, with the same result, as soon as `k` is at
least `n` or exceeds the number of addresses handed out. -/
def Needs {α : Type} (n : Nat) (c : Enc α) (C : Nat → Enc α) : Prop :=
  ∀ st x st' ops, c st x = some (st', ops) →
    st.next ≤ st'.next ∧ ∀ k, n ≤ k ∨ st'.next < st.next + k → C k st x = some (st', ops)

theorem encSeq_needs {n : Nat} {f : Enc Val} {F : Nat → Enc Val} (hf : Needs n f F) :
    Needs n (encSeq f) fun k => encSeq (F k) := by
  intro st xs
  induction xs generalizing st with
  | nil =>
    intro st' ops h
    cases h
    exact ⟨Nat.le_refl _, fun k _ => rfl⟩
  | cons x xs ih =>
    intro st' ops h
    simp only [encSeq_cons, Option.bind_eq_some_iff, Option.map_eq_some_iff, Prod.exists, Prod.mk.injEq] at h
    obtain ⟨st1, ops1, h1, _, ops2, h2, rfl, rfl⟩ := h
    obtain ⟨m1, g1⟩ := hf st x _ _ h1
    obtain ⟨m2, g2⟩ := ih st1 _ _ h2
    refine ⟨Nat.le_trans m1 m2, fun k hk => ?_⟩
    simp only [encSeq_cons, g1 k (hk.imp_right fun h => by omega), g2 k (hk.imp_right fun h => by omega), Option.bind_some,
      Option.map_some]

theorem encBatches_needs {n : Nat} {f : Enc Val} {F : Nat → Enc Val} (hf : Needs n f F) (rb : Bool) (self close : Op)
    (first : Bool) :
    Needs n (encBatches f rb self close first) fun k => encBatches (F k) rb self close first := by
  intro st bs
  induction bs generalizing st first with
  | nil =>
    intro st' ops h
    cases h
    exact ⟨Nat.le_refl _, fun k _ => rfl⟩
  | cons b bs ih =>
    intro st' ops h
    simp only [encBatches_cons, Option.bind_eq_some_iff, Option.map_eq_some_iff, Prod.exists, Prod.mk.injEq] at h
    obtain ⟨st1, ops1, h1, _, ops2, h2, rfl, rfl⟩ := h
    obtain ⟨m1, g1⟩ := encSeq_needs hf st b _ _ h1
    obtain ⟨m2, g2⟩ := ih false st1 _ _ h2
    refine ⟨Nat.le_trans m1 m2, fun k hk => ?_⟩
    simp only [encBatches_cons, g1 k (hk.imp_right fun h => by omega), g2 k (hk.imp_right fun h => by omega),
      Option.bind_some, Option.map_some]

/-- a call made after an address was taken: the unit of fuel spent on the object pays for that address -/
theorem Needs.after {α : Type} {n : Nat} {c : Enc α} {C : Nat → Enc α} (h : Needs n c C) {st st0 st' : EncSt}
    (h0 : st0.next = st.next + 1) {x : α} {ops : List Op} (hc : c st0 x = some (st', ops)) :
    st.next ≤ st'.next ∧ ∀ k, n ≤ k ∨ st'.next < st.next + (k + 1) → C k st0 x = some (st', ops) := by
  obtain ⟨m, gk⟩ := h st0 x st' ops hc
  exact ⟨by omega, fun k hk => gk k (hk.imp_right fun h => by omega)⟩

theorem Needs.before {α : Type} {n : Nat} {c : Enc α} {C : Nat → Enc α} (h : Needs n c C) {st st1 st' : EncSt}
    {x : α} {ops : List Op} (hc : c st x = some (st1, ops)) (h1 : st'.next = st1.next + 1) :
    st.next ≤ st'.next ∧ ∀ k, n ≤ k ∨ st'.next < st.next + (k + 1) → C k st x = some (st1, ops) := by
  obtain ⟨m, gk⟩ := h st x st1 ops hc
  exact ⟨by omega, fun k hk => gk k (hk.imp_right fun h => by omega)⟩

theorem encVal_needs (cfg : EncCfg) (g : Heap) : ∀ n, Needs n (encVal cfg g n) (encVal cfg g) := by
  intro n
  induction n with
  | zero =>
    intro st v st' ops h
    cases v with
    | atom a => cases h; exact ⟨Nat.le_refl _, fun k _ => encVal_atom ..⟩
    | _ => cases h
  | succ n ih =>
    intro st v st' ops h
    cases v with
    | atom a => cases h; exact ⟨Nat.le_refl _, fun k _ => encVal_atom ..⟩
    | mark => cases h
    | global i m k => cases h
    | ref a =>
      have hs := encSeq_needs ih
      have hb := encBatches_needs ih cfg.rebatch
      -- a reference is not looked at without fuel, so `k` is a successor: it is enough to speak of `k + 1`
      suffices ∀ k, st.next ≤ st'.next ∧
          (n ≤ k ∨ st'.next < st.next + (k + 1) → encVal cfg g (k + 1) st (.ref a) = some (st', ops)) from
        ⟨(this 0).1, fun k hk => by
          obtain ⟨k, rfl⟩ := Nat.exists_eq_succ_of_ne_zero (show k ≠ 0 by have := (this 0).1; omega)
          exact (this k).2 (hk.imp_left Nat.le_of_succ_le_succ)⟩
      intro k
      rw [encVal] at h ⊢
      -- each `split at h` decides a test of the run with `n + 1` fuel, and with it the same test of the run with `k + 1`;
      -- what remains in each case is the one call with `n`, respectively `k`, fuel
      split at h
      · cases h
        exact ⟨Nat.le_refl _, fun _ => rfl⟩
      split at h
      · cases h
      · -- a tuple: its elements, then its address
        split at h <;> try cases h
        rename_i st1 ops1 h1
        split at h <;> cases h
        obtain ⟨m, gk⟩ := hs.before h1 (st' := ⟨st1.memo, st1.next + 1⟩) rfl
        exact ⟨m, fun hk => by simp only [gk k hk, if_pos ‹a = st1.next›]⟩
      · -- a list: its address, then its elements
        split at h <;> try cases h
        simp only at h
        split at h
        · cases h
          exact ⟨Nat.le_succ _, fun _ => if_pos ‹a = st.next›⟩
        · split at h <;> cases h
          rename_i h1
          obtain ⟨m, gk⟩ := ih.after rfl h1
          exact ⟨m, fun hk => by simp only [gk k hk, if_pos ‹a = st.next›]⟩
        · split at h <;> cases h
          rename_i h1
          obtain ⟨m, gk⟩ := (hb _ _ _).after rfl h1
          exact ⟨m, fun hk => by simp only [gk k hk, if_pos ‹a = st.next›]⟩
      · -- a dict: its address, then its batches of keys and values
        split at h <;> try cases h
        simp only at h
        split at h <;> cases h
        rename_i h1
        obtain ⟨m, gk⟩ := (hb _ _ _).after rfl h1
        exact ⟨m, fun hk => by simp only [gk k hk, if_pos ‹a = st.next›]⟩
      · -- a set: likewise
        split at h <;> try cases h
        simp only at h
        split at h <;> cases h
        rename_i h1
        obtain ⟨m, gk⟩ := (hb _ _ _).after rfl h1
        exact ⟨m, fun hk => by simp only [gk k hk, if_pos ‹a = st.next›]⟩
      · -- a host object: its argument tuple, then its address
        split at h <;> try cases h
        rename_i hp
        iterate 2 split at h <;> try cases h
        split at h <;> try cases h
        rename_i st1 ops1 h1
        split at h <;> cases h
        obtain ⟨m, gk⟩ := ih.before h1 (st' := ⟨(a, st1.memo.length) :: st1.memo, st1.next + 1⟩) rfl
        exact ⟨m, fun hk => by simp only [if_neg hp, gk k hk, if_pos ‹a = st1.next›]⟩

theorem encVal_fuel_mono (cfg : EncCfg) (g : Heap) {n k : Nat} (hk : n ≤ k) {st st' : EncSt} {v : Val} {ops : List Op}
    (h : encVal cfg g n st v = some (st', ops)) : encVal cfg g k st v = some (st', ops) :=
  (encVal_needs cfg g n st v st' ops h).2 k (.inl hk)

end Dawn.Pickle
