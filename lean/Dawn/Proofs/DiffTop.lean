import Dawn.Proofs.DiffPasses
import Dawn.Proofs.DiffVal
/-!
C16: `DiffDepth` on Starlark values: the mapping diff key by key, `DiffDepth` against `EqualDepth` one level at a
time, totality below the depth limit, and the outcomes of `diffEnv`.
-/
namespace Dawn.Diff

/-- what `starlark.EqualDepth(x, y, 1000)` answers (`false` where it fails) -/
def eqbV (x y : Val) : Bool :=
  match equalDepth snakeDepth x y with
  | .ok r => r
  | .error _ => false

theorem eqOnV (xs ys : List Val) (h : ∀ x ∈ xs, x.height ≤ snakeDepth) :
    EqOn (equalDepth snakeDepth) eqbV xs ys := by
  intro x hx y _
  obtain ⟨r, hr⟩ := equalDepth_total snakeDepth x y (h x hx)
  rw [eqbV, hr]

/-- the edit reported for key `k` -/
def editFor (k : Val) (es : List (Val × Edit Val VDiff)) : Option (Val × Edit Val VDiff) :=
  es.find? fun e => k.beq e.1

/-- no key occurs twice (a Starlark dict) -/
def KeysDistinct (kvs : List (Val × Val)) : Prop := kvs.Pairwise fun e1 e2 => e1.1 ≠ e2.1

theorem editFor_cons_self (k : Val) (x : Edit Val VDiff) (es : List (Val × Edit Val VDiff)) :
    editFor k ((k, x) :: es) = some (k, x) := by
  rw [editFor, List.find?_cons, Val.beq_refl]

theorem editFor_cons_ne {k k0 : Val} (h : k ≠ k0) (x : Edit Val VDiff) (es : List (Val × Edit Val VDiff)) :
    editFor k ((k0, x) :: es) = editFor k es := by
  rw [editFor, List.find?_cons, Val.beq_eq_false_iff.mpr h]; rfl

/-- A loop over the entries of a dict that reports at most one edit per entry, under the key of the entry: the
edit for a key is the one its entry gives rise to. -/
theorem editFor_filterMap (g : Val → Val → Option (Edit Val VDiff)) (k : Val) (kvs : List (Val × Val))
    (hd : KeysDistinct kvs) :
    editFor k (kvs.filterMap fun e => (g e.1 e.2).map (e.1, ·)) = (lookup k kvs).bind fun v => (g k v).map (k, ·) := by
  induction kvs with
  | nil => rfl
  | cons e rest ih =>
    obtain ⟨k0, v0⟩ := e
    have ⟨hk0, hd⟩ := List.pairwise_cons.mp hd
    have ih := ih hd
    simp only [List.filterMap_cons]
    by_cases hk : k = k0
    · subst hk
      rw [lookup_cons_self, Option.bind_some]
      cases g k v0 with
      | none =>
        rw [(lookup_eq_none_iff k rest).mpr fun e he => (hk0 e he).symm] at ih
        exact ih
      | some x => exact editFor_cons_self k x _
    · rw [lookup_cons_ne hk]
      cases g k0 v0 with
      | none => exact ih
      | some x => exact (editFor_cons_ne hk x _).trans ih

theorem map_eq_ok {α β : Type} {f : α → β} {x : Except Err α} {y : β} :
    x.map f = .ok y ↔ ∃ v, x = .ok v ∧ f v = y := by
  cases x with
  | error e => exact ⟨fun h => (nomatch h), fun ⟨_, h, _⟩ => (nomatch h)⟩
  | ok v => exact ⟨fun h => ⟨v, rfl, Except.ok.inj h⟩, fun ⟨_, h, e⟩ => by cases h; exact congrArg _ e⟩

theorem bind_eq_ok {α β : Type} {x : Except Err α} {g : α → Except Err β} {y : β} :
    x >>= g = .ok y ↔ ∃ v, x = .ok v ∧ g v = .ok y := by
  cases x with
  | error e => exact ⟨nofun, nofun⟩
  | ok v => exact ⟨fun h => ⟨v, rfl, h⟩, fun ⟨_, h, e⟩ => by cases h; exact e⟩

theorem editFor_append (k : Val) (es1 es2 : List (Val × Edit Val VDiff)) :
    editFor k (es1 ++ es2) = (editFor k es1).or (editFor k es2) :=
  List.find?_append

/-- what the first loop of `diffMapping` reports for the entry `(k, ov)` of the old mapping: a `delete` if the new
mapping lacks the key, a `replace` if the two values differ -/
def firstEdit (f : Val → Val → Except Err (Option VDiff)) (new : List (Val × Val)) (k ov : Val) : Option (Edit Val VDiff) :=
  match lookup k new with
  | none => some (.delete [ov])
  | some nv =>
    match f ov nv with
    | .ok (some d) => some (.replace [some d])
    | _ => none

/-- what the second loop reports for the entry `(k, nv)` of the new mapping: an `add` if the old mapping lacks the key -/
def secondEdit (old : List (Val × Val)) (k nv : Val) : Option (Edit Val VDiff) :=
  match lookup k old with
  | none => some (.add [nv])
  | some _ => none

theorem mappingEdits_second_eq (old : List (Val × Val)) : ∀ new : List (Val × Val),
    mappingEdits.second old new = new.filterMap fun e => (secondEdit old e.1 e.2).map (e.1, ·)
  | [] => rfl
  | (k, nv) :: rest => by
    rw [mappingEdits.second, mappingEdits_second_eq old rest, List.filterMap_cons, secondEdit]
    cases lookup k old <;> rfl

theorem mappingEdits_first_eq (f : Val → Val → Except Err (Option VDiff)) (new old : List (Val × Val))
    (es : List (Val × Edit Val VDiff)) (h : mappingEdits.first f new old = .ok es) :
    (∀ e ∈ old, ∀ nv, lookup e.1 new = some nv → ∃ r, f e.2 nv = .ok r) ∧
    es = old.filterMap fun e => (firstEdit f new e.1 e.2).map (e.1, ·) := by
  induction old generalizing es with
  | nil => cases h; exact ⟨nofun, rfl⟩
  | cons e rest ih =>
    obtain ⟨k, ov⟩ := e
    revert h
    rw [mappingEdits.first, List.filterMap_cons, List.forall_mem_cons, firstEdit]
    cases lookup k new with
    | none =>
      intro h
      obtain ⟨es', hr, h⟩ := bind_eq_ok.mp h
      obtain ⟨hok, rfl⟩ := ih es' hr
      cases h
      exact ⟨⟨nofun, hok⟩, rfl⟩
    | some nv =>
      intro h
      obtain ⟨d, hd, h⟩ := bind_eq_ok.mp h
      obtain ⟨es', hr, h⟩ := bind_eq_ok.mp h
      obtain ⟨hok, rfl⟩ := ih es' hr
      refine ⟨⟨fun nv' h' => ⟨d, by cases h'; exact hd⟩, hok⟩, ?_⟩
      simp only [hd]
      cases d <;> cases h <;> rfl

theorem mappingEdits_first_total (f : Val → Val → Except Err (Option VDiff)) (new old : List (Val × Val))
    (h : ∀ e ∈ old, ∀ nv, lookup e.1 new = some nv → ∃ r, f e.2 nv = .ok r) :
    ∃ es, mappingEdits.first f new old = .ok es := by
  induction old with
  | nil => exact ⟨[], rfl⟩
  | cons e rest ih =>
    obtain ⟨k, ov⟩ := e
    obtain ⟨es, hes⟩ := ih fun e he => h e (List.mem_cons_of_mem _ he)
    rw [mappingEdits.first, hes]
    cases hl : lookup k new with
    | none => exact ⟨_, rfl⟩
    | some nv =>
      obtain ⟨r, hr⟩ := h (k, ov) List.mem_cons_self nv hl
      simp only [hr]
      cases r <;> exact ⟨_, rfl⟩

theorem mappingEdits_spec (f : Val → Val → Except Err (Option VDiff)) (old new : List (Val × Val))
    (es : List (Val × Edit Val VDiff)) (ho : KeysDistinct old) (hn : KeysDistinct new)
    (h : mappingEdits f old new = .ok es) (k : Val) :
    match lookup k old, lookup k new with
    | none, none => editFor k es = none
    | some ov, none => editFor k es = some (k, .delete [ov])
    | none, some nv => editFor k es = some (k, .add [nv])
    | some ov, some nv => (f ov nv = .ok none ∧ editFor k es = none) ∨
                          (∃ d, f ov nv = .ok (some d) ∧ editFor k es = some (k, .replace [some d])) := by
  obtain ⟨es1, h1, h⟩ := bind_eq_ok.mp h
  cases h
  obtain ⟨hok, rfl⟩ := mappingEdits_first_eq f new old es1 h1
  rw [editFor_append, editFor_filterMap _ k old ho, mappingEdits_second_eq, editFor_filterMap _ k new hn]
  unfold firstEdit secondEdit
  cases hlo : lookup k old <;> cases hln : lookup k new
  · rfl
  · rfl
  · rfl
  · next ov nv =>
    obtain ⟨r, hr⟩ := hok (k, ov) (lookup_mem hlo) nv hln
    simp only [Option.bind_some, hr]
    cases r with
    | none => exact .inl ⟨rfl, rfl⟩
    | some d => exact .inr ⟨d, rfl, rfl⟩

theorem hasEdit_eq (k : Val) (es : List (Val × Edit Val VDiff)) : hasEdit k es = (editFor k es).isSome := by
  unfold hasEdit editFor
  induction es with
  | nil => rfl
  | cons e es ih =>
    simp only [List.any_cons, List.find?_cons]
    cases k.beq e.1 with
    | false => exact ih
    | true => rfl

/-- the literal diff `diffReplacements` builds for two pieces of strings or bytes, when both sequences are such -/
def litOf (old new : Val) : Option (List Val → List Val → VDiff) :=
  if old.indexReturnsSlice && new.indexReturnsSlice then
    some fun o n => .lit (old.reslice o) (new.reslice n)
  else none

theorem slice_case (rs : Nat) (hrs : 1 ≤ rs) (f : Val → Val → Except Err (Option VDiff)) (d : Nat)
    (IH : ∀ x y : Val, x.height ≤ d → y.height ≤ d → ∃ r, f x y = .ok r)
    (a b : Val) (xs ys : List Val) (ha : a.elems? = some xs) (hb : b.elems? = some ys)
    (hha : a.height ≤ d + 1) (hhb : b.height ≤ d + 1) (hd : d ≤ snakeDepth) :
    ∃ edits, diffSliceEdits (equalDepth snakeDepth) f (litOf a b) rs xs ys = .ok edits ∧
      Recon eqbV f (litOf a b) edits xs ys := by
  have hsn : ∀ {c : Val} {zs : List Val}, c.elems? = some zs → c.height ≤ d + 1 → ∀ z ∈ zs, z.height ≤ snakeDepth := by
    intro c zs hc hh z hz
    have : 1 ≤ snakeDepth := by decide
    rcases elems_height hc hz with ⟨_, h⟩ | ⟨_, h⟩ <;> omega
  refine diffSliceEdits_spec (equalDepth snakeDepth) eqbV f (litOf a b) rs hrs xs ys
    (eqOnV xs ys (hsn ha hha)) (eqOnV ys xs (hsn hb hhb)) ?_
  intro x hxm y hym hlit
  -- elements of strings and bytes have height 1; not both sides are such, and the other side gives `1 ≤ d`
  have hnl : ¬ (a.indexReturnsSlice = true ∧ b.indexReturnsSlice = true) := fun h => by
    simp [litOf, h.1, h.2] at hlit
  have px := x.height_pos
  have py := y.height_pos
  rcases elems_height ha hxm with ⟨ea, hx1⟩ | ⟨_, hx1⟩ <;> rcases elems_height hb hym with ⟨eb, hy1⟩ | ⟨_, hy1⟩
  · exact absurd ⟨ea, eb⟩ hnl
  all_goals exact IH x y (by omega) (by omega)

section
variable (rs : Nat) (sw : Bool) (d : Nat) (a b : Val)

theorem diffDepthWith_slice {xs ys : List Val} (h : equalDepth (d + 1) a b = .ok false)
    (ha : a.elems? = some xs) (hb : b.elems? = some ys) :
    diffDepthWith rs sw (d + 1) a b =
      (diffSliceEdits (equalDepth snakeDepth) (diffDepthWith rs sw d) (litOf a b) rs xs ys).map fun edits =>
        some (.slice (sliceSides sw a b xs ys).1 (sliceSides sw a b xs ys).2 edits) := by
  simp only [diffDepthWith, h, ha, hb, litOf]
  cases diffSliceEdits _ _ _ rs xs ys <;> rfl

theorem diffDepthWith_dict {o n : List (Val × Val)} (h : equalDepth (d + 1) (.dict o) (.dict n) = .ok false) :
    diffDepthWith rs sw (d + 1) (.dict o) (.dict n) =
      (mappingEdits (diffDepthWith rs sw d) o n).map fun es => some (.mapping (.dict o) (.dict n) es) := by
  simp only [diffDepthWith, h, Val.elems?]
  cases mappingEdits _ o n <;> rfl

/-- What `DiffDepth` answers, by what `EqualDepth` with the same depth answers: its error for an error, `nil` for
"equal", and for "not equal" the sequence diff of two sequences or the mapping diff of two dicts, both one level
down, else a literal diff. Whatever relates the two answers in each of these cases relates them. -/
theorem diffDepthWith_cases {motive : Except Err Bool → Except Err (Option VDiff) → Prop}
    (error : ∀ e, motive (.error e) (.error e))
    (equal : motive (.ok true) (.ok none))
    (slice : ∀ d' xs ys, d = d' + 1 → a.elems? = some xs → b.elems? = some ys →
      motive (.ok false)
        ((diffSliceEdits (equalDepth snakeDepth) (diffDepthWith rs sw d') (litOf a b) rs xs ys).map fun edits =>
          some (.slice (sliceSides sw a b xs ys).1 (sliceSides sw a b xs ys).2 edits)))
    (dict : ∀ d' o n, d = d' + 1 → a = .dict o → b = .dict n →
      motive (.ok false) ((mappingEdits (diffDepthWith rs sw d') o n).map fun es => some (.mapping a b es)))
    (lit : motive (.ok false) (.ok (some (.lit a b)))) :
    motive (equalDepth d a b) (diffDepthWith rs sw d a b) := by
  cases d with
  | zero => exact error .depth
  | succ d =>
    simp only [diffDepthWith]
    cases equalDepth (d + 1) a b with
    | error e => exact error e
    | ok c =>
      cases c with
      | true => exact equal
      | false =>
        simp only []
        split
        · next xs ys ha hb =>
          have := slice d xs ys rfl ha hb
          unfold litOf at this
          generalize diffSliceEdits _ _ _ rs xs ys = r at this ⊢
          cases r <;> exact this
        · split
          · next o n _ =>
            have := dict d o n rfl rfl rfl
            generalize mappingEdits _ o n = r at this ⊢
            cases r <;> exact this
          · exact lit

theorem diffDepthWith_none_iff : diffDepthWith rs sw d a b = .ok none ↔ equalDepth d a b = .ok true := by
  have some_ne {α : Type} (x : Except Err α) (g : α → VDiff) : (x.map fun v => some (g v)) ≠ .ok none :=
    fun hn => by obtain ⟨_, _, hv⟩ := map_eq_ok.mp hn; cases hv
  exact diffDepthWith_cases (motive := fun e r => r = .ok none ↔ e = .ok true) rs sw d a b
    (fun _ => ⟨nofun, nofun⟩) ⟨fun _ => rfl, fun _ => rfl⟩
    (fun _ _ _ _ _ _ => ⟨fun hn => absurd hn (some_ne _ _), nofun⟩)
    (fun _ _ _ _ _ _ => ⟨fun hn => absurd hn (some_ne _ _), nofun⟩) ⟨nofun, nofun⟩

theorem diffDepthWith_sides (x : VDiff) : diffDepthWith rs false d a b = .ok (some x) → x.old = a ∧ x.new = b := by
  refine diffDepthWith_cases (motive := fun _ r => r = .ok (some x) → x.old = a ∧ x.new = b) rs false d a b
    (fun _ => nofun) nofun ?_ ?_ ?_
  · intro _ xs ys _ _ _ h; obtain ⟨_, _, hv⟩ := map_eq_ok.mp h; cases hv; exact ⟨rfl, rfl⟩
  · intro _ o n _ _ _ h; obtain ⟨_, _, hv⟩ := map_eq_ok.mp h; cases hv; exact ⟨rfl, rfl⟩
  · intro h; cases h; exact ⟨rfl, rfl⟩

end

theorem diffDepthWith_total (rs : Nat) (hrs : 1 ≤ rs) (sw : Bool) (d : Nat) :
    ∀ a b : Val, a.height ≤ d → b.height ≤ d → d ≤ snakeDepth + 1 → ∃ r, diffDepthWith rs sw d a b = .ok r := by
  induction d with
  | zero => intro a _ h; have := a.height_pos; omega
  | succ d ih =>
    intro a b hha hhb hd
    have IH : ∀ x y : Val, x.height ≤ d → y.height ≤ d → ∃ r, diffDepthWith rs sw d x y = .ok r :=
      fun x y h1 h2 => ih x y h1 h2 (by omega)
    refine diffDepthWith_cases (motive := fun e r => (∃ c, e = .ok c) → ∃ r', r = .ok r') rs sw (d + 1) a b
      (fun _ => nofun) (fun _ => ⟨_, rfl⟩) ?_ ?_ (fun _ => ⟨_, rfl⟩) (equalDepth_total (d + 1) a b hha)
    · intro _ xs ys hd' ha hb _
      cases hd'
      obtain ⟨edits, he, _⟩ := slice_case rs hrs _ d IH a b xs ys ha hb hha hhb (by omega)
      exact ⟨_, by rw [he]; rfl⟩
    · rintro _ o n hd' rfl rfl _
      cases hd'
      obtain ⟨es, hes⟩ := mappingEdits_first_total (diffDepthWith rs sw d) n o fun e he nv hl => by
        have h1 := mem_heightPairs (k := e.1) (v := e.2) he
        have h2 := mem_heightPairs (lookup_mem hl)
        have hha : 1 + Val.heightPairs o ≤ d + 1 := hha
        have hhb : 1 + Val.heightPairs n ≤ d + 1 := hhb
        exact IH e.2 nv (by omega) (by omega)
      exact ⟨_, by rw [mappingEdits, hes]; rfl⟩

/-- The outcomes of `diffEnv` when there is a record and the encodings differ: whatever holds of the generic
"environment changed" without a diff, of a panic, of every error and of every reason shown with a diff holds of its
result. A reason with a diff is shown only for two values that compare unequal, with their mapping diff, and it is
built from the `functionEnvKeys` that have an edit. -/
theorem diffEnv_differ {motive : EnvResult → Prop} (old new : Val)
    (noDiff : motive .changedOpaque) (panic : motive .panic) (error : ∀ e, motive (.error e))
    (changed : ∀ r o n edits reasons, equalDepth envDepth old new = .ok false →
      diffDepth envDepth old new = .ok (some (.mapping o n edits)) →
      reasons = (functionEnvKeys.filter fun k => hasEdit (.str k.toUTF8.toList) edits) →
      (reasons = [] ∧ r = "environment changed" ∨
       reasons ≠ [] ∧ ∃ rs, joinReasons reasons = .ok rs ∧ r = rs ++ " changed") →
      motive (.changed r (.mapping o n edits))) :
    motive (diffEnv (some old) false new) := by
  simp only [diffEnv, Bool.false_eq_true, ↓reduceIte]
  split
  · exact noDiff
  · exact noDiff
  · next heq =>
    split
    · split
      · exact noDiff
      · exact panic
      · next o n edits hd =>
        split
        · next hnil => exact changed _ o n edits _ heq hd rfl (.inl ⟨hnil, rfl⟩)
        · next hne =>
          split
          · next rs hj => exact changed _ o n edits _ heq hd rfl (.inr ⟨hne, rs, hj, rfl⟩)
          · exact panic
      · exact panic
    · exact error _
    · exact error _

end Dawn.Diff
