import Dawn.Model.MvsRef
import Dawn.Proofs.MvsOrder
/-!
# What C11 needs from ref resolution

A ref query resolves to a version of the queried project; when the revision carries a matching tag, to that tag;
otherwise to a pseudo-version that sorts strictly ABOVE the closest tagged ancestor's version — so that asking for a
revision that descends from the selected tag is never a downgrade. (`resolveRefQueryD33`, the code before the fix,
based the pseudo-version on the oldest tagged ancestor: `C11_ref_counterexample` in Props.)
-/
namespace Dawn.Mvs

/-- `module.PseudoVersion` on a tagged version sorts strictly above that version -/
theorem pseudoVersion_gt (major : String) (s : SemVer) (stamp pid : String) :
    cmpVersion (.sv s) (pseudoVersion major (some s) stamp pid) = .lt := by
  unfold pseudoVersion
  dsimp only
  split <;> simp only [cmpVersion, reduceCtorEq, ↓reduceIte, semverCompare, SemVer.cmp_eq, lawful_compare_nat.refl, lexOrd]
  · rw [Nat.compare_eq_lt.mpr (Nat.lt_succ_self _)]
  · rename_i hpre
    cases hp : s.pre with
    | nil => exact absurd hp hpre
    | cons a as => exact cmpList_append_lt lawful_preId (a :: as) _ _

theorem tagAt_spec {h : History} {major path anc : String} {t : Mod × String} (ht : tagAt h major path anc = some t) :
    t.1.path = path ∧ t.2 = anc ∧ t ∈ h.tagRevs := by
  unfold tagAt at ht
  have hm := List.mem_of_find?_eq_some ht
  have hp := List.find?_some ht
  simp only [decide_eq_true_eq] at hp
  exact ⟨hp.1, hp.2.2, List.mem_reverse.mp hm⟩

theorem closestTag_some {h : History} {major path : String} {ancestors : List String} {t : Mod × String}
    (ht : closestTag h major path ancestors = some t) : ∃ a ∈ ancestors, tagAt h major path a = some t := by
  induction ancestors with
  | nil => cases ht
  | cons a rest ih =>
    simp only [closestTag] at ht
    split at ht
    · rename_i t' hta
      cases ht
      exact ⟨a, List.mem_cons_self, hta⟩
    · obtain ⟨a', ha', hta⟩ := ih ht
      exact ⟨a', List.mem_cons_of_mem _ ha', hta⟩

theorem closestTag_spec {h : History} {major path : String} {ancestors : List String} {t : Mod × String}
    (ht : closestTag h major path ancestors = some t) : t.1.path = path ∧ t.2 ∈ ancestors ∧ t ∈ h.tagRevs := by
  obtain ⟨a, ha, hta⟩ := closestTag_some ht
  obtain ⟨h1, h2, h3⟩ := tagAt_spec hta
  exact ⟨h1, h2 ▸ ha, h3⟩

theorem resolveRefQuery_spec {h : History} {major path ref revId : String} {rev : Revision} {m : Mod}
    (href : h.refs ref = some revId) (hrev : h.revision revId = some rev)
    (hres : resolveRefQuery h major path ref = .ok m) :
    m.path = path ∧
    ∀ t tr, closestTag h major path (h.ancestors revId) = some (t, tr) →
      (tr = rev.id → m = t) ∧ (tr ≠ rev.id → ∀ s, t.ver = .sv s → cmpVersion t.ver m.ver = .lt) := by
  unfold resolveRefQuery resolveRefWith at hres
  simp only [href, hrev] at hres
  split at hres
  · rename_i t tr hc
    have key : m.path = path ∧ (tr = rev.id → m = t) ∧
        (tr ≠ rev.id → ∀ s, t.ver = .sv s → cmpVersion t.ver m.ver = .lt) := by
      split at hres
      · rename_i heq
        cases hres
        exact ⟨(closestTag_spec hc).1, fun _ => rfl, fun hne => absurd heq hne⟩
      · rename_i hne
        split at hres <;> cases hres
        · rename_i s hs
          exact ⟨rfl, fun e => absurd e hne, fun _ _ _ => hs ▸ pseudoVersion_gt major s rev.stamp rev.pseudoId⟩
        · rename_i hns
          exact ⟨rfl, fun e => absurd e hne, fun _ s hs => absurd hs (hns s)⟩
    exact ⟨key.1, fun t' tr' ht' => by cases hc.symm.trans ht'; exact key.2⟩
  · rename_i hc
    cases hres
    exact ⟨rfl, fun t tr ht => nomatch hc.symm.trans ht⟩

/-- the tag picked at an ancestor is the LAST matching one in `repo.Versions()` order; that list is sorted by version
(ascending, stably), so it is the greatest version tagged there -/
theorem tagAt_greatest {h : History} {major path anc : String} {t : Mod × String}
    (hsorted : h.tagRevs.Pairwise fun a b => Ver.le a.1.ver b.1.ver)
    (ht : tagAt h major path anc = some t) :
    ∀ t' ∈ h.tagRevs, t'.1.path = path → majorVersionMatch major t'.1.ver = true → t'.2 = anc → Ver.le t'.1.ver t.1.ver := by
  unfold tagAt at ht
  obtain ⟨_, as, bs, hsplit, hnone⟩ := List.find?_eq_some_iff_append.mp ht
  have hl : h.tagRevs = bs.reverse ++ t :: as.reverse := by
    have := congrArg List.reverse hsplit
    simpa using this
  intro t' ht' hp hm ha
  rw [hl] at ht' hsorted
  rcases List.mem_append.mp ht' with h1 | h1
  · exact (List.pairwise_append.mp hsorted).2.2 t' h1 t List.mem_cons_self
  · rcases List.mem_cons.mp h1 with rfl | h2
    · exact Ver.le_refl _
    · exfalso
      have := hnone t' (List.mem_reverse.mp h2)
      simp [hp, hm, ha] at this

theorem closestTag_greatest {h : History} {major path : String}
    (hsorted : h.tagRevs.Pairwise fun a b => Ver.le a.1.ver b.1.ver) :
    ∀ {ancestors : List String} {t : Mod × String}, closestTag h major path ancestors = some t →
      ∀ t' ∈ h.tagRevs, t'.1.path = path → majorVersionMatch major t'.1.ver = true → t'.2 = t.2 → Ver.le t'.1.ver t.1.ver := by
  intro ancestors t ht t' h1 h2 h3 h4
  obtain ⟨a, _, hta⟩ := closestTag_some ht
  exact tagAt_greatest hsorted hta t' h1 h2 h3 (h4.trans (tagAt_spec hta).2.1)

end Dawn.Mvs
