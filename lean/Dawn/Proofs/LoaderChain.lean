import Dawn.Proofs.LoaderShape
/-!
`Inv3`: the `loading` fields of the fixed loader model mirror the stacks. Within a stack every frame
points to the frame above it, the top frame points to the module it is waiting for / loading (exactly while the
pointer is published), nothing else has a pointer, and publication times increase up a stack.
-/
namespace Dawn.Loader

/-- what the top frame's `loading` field holds at this program counter -/
def topPtr (p : PC) (f : Frame) : Option Mod :=
  match p with
  | .load d | .enter d | .walk d _ | .wlock d | .sleep d | .check d => some d
  | .unset _ => f.todo.head?
  | _ => none

/-- the frames of one stack, top first: the first frame's `loading` is `p`, every other frame's is the frame above -/
def chainOK (L : Mod → Option Mod) : Option Mod → List Frame → Prop
  | _, [] => True
  | p, f :: rest => L f.mod = p ∧ chainOK L (some f.mod) rest

theorem chainOK_congr {L L' : Mod → Option Mod} {stk : List Frame} (h : ∀ f ∈ stk, L' f.mod = L f.mod) (p : Option Mod) :
    chainOK L' p stk ↔ chainOK L p stk := by
  induction stk generalizing p with
  | nil => simp [chainOK]
  | cons f rest ih =>
    simp only [chainOK]
    rw [h f (by simp), ih (fun g hg => h g (by simp [hg]))]

theorem chainOK_ptr {L : Mod → Option Mod} : ∀ {stk : List Frame} {p : Option Mod}, chainOK L p stk →
    ∀ f ∈ stk.tail, L f.mod ≠ none
  | [], _, _, _, hf => nomatch hf
  | [_], _, _, _, hf => nomatch hf
  | _ :: _ :: _, _, h, g, hg => by
    rcases List.mem_cons.1 hg with rfl | hg
    · rw [h.2.1]; simp
    · exact chainOK_ptr h.2 g hg

structure Inv3 (s : State) : Prop where
  chain : ∀ t f rest, s.stack t = f :: rest → chainOK s.loading (topPtr (s.pc t) f) (f :: rest)
  free_none : ∀ m, (∀ t f, f ∈ s.stack t → f.mod ≠ m) → s.loading m = none
  ptime_lt : ∀ m, s.loading m ≠ none → s.ptime m < s.clock
  ptime_inj : ∀ a b, s.loading a ≠ none → s.loading b ≠ none → s.ptime a = s.ptime b → a = b
  order : ∀ t, (s.stack t).Pairwise (fun u l => s.loading u.mod ≠ none → s.ptime l.mod < s.ptime u.mod)

theorem inv3_init (P : Project) : Inv3 (init P) := by
  constructor <;> simp [init]


theorem inv3_quiet {s s' : State} {t : Tid} (inv : Inv3 s) (hst : s'.stack = s.stack) (hl : s'.loading = s.loading)
    (hp : s'.ptime = s.ptime) (hc : s'.clock = s.clock) (hpc : ∀ t1, t1 ≠ t → s'.pc t1 = s.pc t1)
    (h : ∀ f rest, s.stack t = f :: rest → topPtr (s'.pc t) f = topPtr (s.pc t) f) : Inv3 s' := by
  constructor
  · intro t1 f rest hs
    rw [hst] at hs
    rw [hl]
    by_cases e : t1 = t
    · rw [e, h f rest (e ▸ hs)]; exact e ▸ inv.chain t1 f rest hs
    · rw [hpc t1 e]; exact inv.chain t1 f rest hs
  · intro m h; rw [hl]; exact inv.free_none m (by rw [hst] at h; exact h)
  · intro m h; rw [hp, hc]; rw [hl] at h; exact inv.ptime_lt m h
  · intro a b ha hb h; rw [hl] at ha hb; rw [hp] at h; exact inv.ptime_inj a b ha hb h
  · intro t; rw [hst, hl, hp]; exact inv.order t

/-- What publishing, clearing a pointer, pushing and popping have in common: one goroutine `t` and one module `x` are
touched. `hnew`: a pointer that `x` has afterwards sits on `t`'s stack and was published at this step. -/
theorem inv3_local {s s' : State} {t : Tid} {x : Mod} (inv : Inv3 s)
    (hfr : ∀ t1, t1 ≠ t → s'.pc t1 = s.pc t1 ∧ s'.stack t1 = s.stack t1)
    (hl : ∀ m, m ≠ x → s'.loading m = s.loading m ∧ s'.ptime m = s.ptime m) (hc : s.clock ≤ s'.clock)
    (hoth : ∀ t1, t1 ≠ t → ∀ g ∈ s.stack t1, s'.loading g.mod = s.loading g.mod ∧ s'.ptime g.mod = s.ptime g.mod)
    (hmods : ∀ g ∈ s.stack t, g.mod ≠ x → ∃ g' ∈ s'.stack t, g'.mod = g.mod)
    (hnew : s'.loading x ≠ none → (∃ g ∈ s'.stack t, g.mod = x) ∧ s'.ptime x = s.clock ∧ s.clock < s'.clock)
    (chain : ∀ f rest, s'.stack t = f :: rest → chainOK s'.loading (topPtr (s'.pc t) f) (f :: rest))
    (order : (s'.stack t).Pairwise (fun u l => s'.loading u.mod ≠ none → s'.ptime l.mod < s'.ptime u.mod)) :
    Inv3 s' := by
  have old : ∀ m, m ≠ x → s'.loading m ≠ none → s.loading m ≠ none ∧ s'.ptime m < s.clock := fun m hm h => by
    rw [(hl m hm).1] at h; exact ⟨h, (hl m hm).2 ▸ inv.ptime_lt m h⟩
  constructor
  · intro t1 f rest hs
    by_cases e : t1 = t
    · exact e ▸ chain f rest (e ▸ hs)
    · rw [(hfr t1 e).2] at hs
      rw [(hfr t1 e).1]
      exact (chainOK_congr (fun g hg => (hoth t1 e g (hs ▸ hg)).1) _).2 (inv.chain t1 f rest hs)
  · intro m h
    by_cases hm : m = x
    · subst hm
      refine Classical.byContradiction fun hne => ?_
      obtain ⟨⟨g, hg, e⟩, _⟩ := hnew hne
      exact h t g hg e
    · rw [(hl m hm).1]
      refine inv.free_none m fun t1 g hg e => ?_
      by_cases ht : t1 = t
      · obtain ⟨g', hg', e'⟩ := hmods g (ht ▸ hg) (e ▸ hm)
        exact h t g' hg' (e'.trans e)
      · exact h t1 g ((hfr t1 ht).2 ▸ hg) e
  · intro m h
    by_cases hm : m = x
    · subst hm; have := hnew h; omega
    · have := (old m hm h).2; omega
  · intro a b ha hb h
    by_cases ea : a = x <;> by_cases eb : b = x
    · rw [ea, eb]
    · have := hnew (ea ▸ ha); have := (old b eb hb).2; rw [ea] at h; omega
    · have := hnew (eb ▸ hb); have := (old a ea ha).2; rw [eb] at h; omega
    · rw [(hl a ea).2, (hl b eb).2] at h
      exact inv.ptime_inj a b (old a ea ha).1 (old b eb hb).1 h
  · intro t1
    by_cases e : t1 = t
    · exact e ▸ order
    · rw [(hfr t1 e).2]
      refine (inv.order t1).imp_of_mem fun hu hl' hR => ?_
      rw [(hoth t1 e _ hu).1, (hoth t1 e _ hu).2, (hoth t1 e _ hl').2]
      exact hR

theorem top_mod_fresh {s : State} (inv2 : Inv2 s) {t : Tid} {f : Frame} {rest : List Frame} (hst : s.stack t = f :: rest) :
    (∀ g ∈ rest, g.mod ≠ f.mod) ∧ ∀ t1, t1 ≠ t → ∀ g ∈ s.stack t1, g.mod ≠ f.mod := by
  refine ⟨fun g hg h => ?_, fun t1 h1 g hg => inv2.disjoint t1 t g f h1 hg (by simp [hst])⟩
  have := inv2.nodup t
  simp only [mods, hst, List.map_cons, List.nodup_cons, List.mem_map, not_exists, not_and] at this
  exact this.1 g hg h

theorem inv3_publish {s : State} {t : Tid} {p : PC} {f : Frame} {rest : List Frame} {d : Mod}
    (inv2 : Inv2 s) (inv : Inv3 s) (hst : s.stack t = f :: rest) (hnew : topPtr p f = some d) :
    Inv3 (setPc (publish s f.mod d) t p) := by
  obtain ⟨hrest, hother⟩ := top_mod_fresh inv2 hst
  have hc := inv.chain t f rest hst
  have ho := inv.order t
  rw [hst, List.pairwise_cons] at ho
  refine inv3_local (x := f.mod) inv (fun _ h => ⟨upd_other _ _ _ _ h, rfl⟩)
    (fun m h => ⟨upd_other _ _ _ _ h, upd_other _ _ _ _ h⟩) (Nat.le_succ _)
    (fun t1 h g hg => ⟨upd_other _ _ _ _ (hother t1 h g hg), upd_other _ _ _ _ (hother t1 h g hg)⟩)
    (fun g hg _ => ⟨g, hg, rfl⟩) (fun _ => ⟨⟨f, by simp [setPc, publish, hst], rfl⟩, upd_same .., Nat.lt_succ_self _⟩)
    (fun g rest1 h => ?_) ?_
  · obtain ⟨rfl, rfl⟩ := List.cons.inj (hst.symm.trans h)
    simp only [setPc, publish, upd_same, hnew, chainOK, true_and]
    exact (chainOK_congr (fun g hg => upd_other _ _ _ _ (hrest g hg)) _).2 hc.2
  · -- the frames below keep their pointers, all older than the new one
    show (s.stack t).Pairwise _
    rw [hst, List.pairwise_cons]
    refine ⟨fun l hl _ => ?_, ho.2.imp_of_mem fun hu hl hR => ?_⟩
    · have := inv.ptime_lt l.mod (chainOK_ptr hc l hl)
      simpa [setPc, publish, upd, hrest l hl] using this
    · simpa [setPc, publish, upd, hrest _ hu, hrest _ hl] using hR

theorem inv3_unset {s : State} {t : Tid} {f : Frame} {rest : List Frame} {p : PC} {td : List Mod}
    (inv2 : Inv2 s) (inv : Inv3 s) (hst : s.stack t = f :: rest) (hp : topPtr p ⟨f.mod, td⟩ = none) :
    Inv3 { s with loading := upd s.loading f.mod none, stack := upd s.stack t (⟨f.mod, td⟩ :: rest),
                  pc := upd s.pc t p } := by
  obtain ⟨hrest, hother⟩ := top_mod_fresh inv2 hst
  have ho := inv.order t
  rw [hst, List.pairwise_cons] at ho
  refine inv3_local (x := f.mod) inv (fun _ h => ⟨upd_other _ _ _ _ h, upd_other _ _ _ _ h⟩)
    (fun m h => ⟨upd_other _ _ _ _ h, rfl⟩) (Nat.le_refl _)
    (fun t1 h g hg => ⟨upd_other _ _ _ _ (hother t1 h g hg), rfl⟩) (fun g hg hne => ?_)
    (fun h => absurd (upd_same ..) h) (fun g rest1 h => ?_) ?_
  · rcases List.mem_cons.1 (hst ▸ hg) with rfl | hg
    · exact absurd rfl hne
    · exact ⟨g, by simp [hg], rfl⟩
  · simp only [upd_same] at h ⊢
    cases h
    simp only [hp, chainOK, upd_same, true_and]
    exact (chainOK_congr (fun g hg => upd_other _ _ _ _ (hrest g hg)) _).2 (inv.chain t f rest hst).2
  · simp only [upd_same]
    refine List.pairwise_cons.2 ⟨fun l _ h => absurd (upd_same ..) h, ho.2.imp_of_mem fun hu _ hR h => ?_⟩
    rw [upd_other _ _ _ _ (hrest _ hu)] at h
    exact hR h

theorem inv3_fstep {P : Project} {s s' : State} {t : Tid} (inv1 : Inv1 P s) (inv2 : Inv2 s) (inv : Inv3 s)
    (st : FStep P s t s') : Inv3 s' := by
  have hfr := fun t1 (h : t1 ≠ t) => (st.frame t1).resolve_left h
  have oth := fun t1 h => (hfr t1 h).1
  -- a load that returns leaves the pointer standing: it is the head of the remaining loads
  have ret : ∀ {d f rest}, target (s.pc t) = some d → s.stack t = f :: rest → f.todo.head? = some d :=
    fun hd hs => inv1.tgt_frame t _ _ _ hs hd
  cases st
  case setNewPub d f rest hpc hst => exact inv3_publish inv2 inv hst (by simp [topPtr])
  case setFoundPub d f rest hpc hst => exact inv3_publish inv2 inv hst (by simp [topPtr])
  case load d hpc =>
    -- the claimed module is in no frame, so it has no pointer; the frame it is pushed on points to it
    have hd : s.loading d = none := inv.free_none d (inv2.new_fresh t d (Or.inr hpc)).2.2
    refine inv3_local (x := d) inv hfr (fun _ _ => ⟨rfl, rfl⟩) (Nat.le_refl _) (fun _ _ _ _ => ⟨rfl, rfl⟩)
      (fun g hg _ => ⟨g, by simp [hg], rfl⟩) (fun h => absurd hd h) (fun g rest1 h => ?_) ?_
    · simp only [upd_same] at h ⊢
      cases h
      simp only [topPtr, chainOK, hd, true_and]
      cases hs : s.stack t with
      | nil => trivial
      | cons f rest => simpa [hpc, topPtr] using inv.chain t f rest hs
    · simp only [upd_same]
      exact List.pairwise_cons.2 ⟨fun l _ h => absurd hd h, inv.order t⟩
  case unsetOk f rest hpc hst => exact inv3_unset (p := .run) (td := f.todo.tail) inv2 inv hst rfl
  case unsetFail r f rest hpc hr hst =>
    -- this step leaves the stack alone: `inv3_unset` with the top frame written back as it is
    exact upd_eq_self hst ▸ inv3_unset (p := .fin r) (td := f.todo) inv2 inv hst rfl
  case fin r f rest hpc hst =>
    -- the popped module had no pointer; the frame below was in the middle of loading it
    have hc := inv.chain t f rest hst
    simp only [hpc, topPtr, chainOK] at hc
    have ho := inv.order t
    rw [hst, List.pairwise_cons] at ho
    refine inv3_local (x := f.mod) inv hfr (fun _ _ => ⟨rfl, rfl⟩) (Nat.le_succ _) (fun _ _ _ _ => ⟨rfl, rfl⟩)
      (fun g hg hne => ?_) (fun h => absurd hc.1 h) (fun g rest1 h => ?_) ?_
    · rcases List.mem_cons.1 (hst ▸ hg) with rfl | hg
      · exact absurd rfl hne
      · exact ⟨g, by simp [hg], rfl⟩
    · simp only [upd_same] at h ⊢
      subst h
      simp only [topPtr, inv1.lower_busy t f g rest1 [] (by simp [hst])]
      exact hc.2
    · simp only [upd_same]
      exact ho.2
  case walkCyc d _ hpc _ | wlockRet d hpc _ | wake d hpc _ _ =>
    exact inv3_quiet inv rfl rfl rfl rfl oth fun f rest h => by simp [setPc, topPtr, hpc, ret (by rw [hpc]; rfl) h]
  -- the other steps move between program counters with the same pointer, or run on an empty stack
  all_goals
    refine inv3_quiet inv rfl rfl rfl rfl oth fun f rest h => ?_
    simp_all only [setPc, goSleep, topPtr, upd_same, List.cons_ne_nil, List.nil_eq]

theorem inv3_reachable {P : Project} {s : State} (h : Reachable .fixed P s) : Inv3 s :=
  reachable_induction (I := Inv3) (inv3_init P)
    (fun _ _ _ hr ih st => inv3_fstep (inv1_reachable hr) (inv2_reachable hr) ih st) h

end Dawn.Loader
