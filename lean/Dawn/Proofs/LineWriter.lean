import Dawn.Model.LineWriter
/-!
Lemmas for C18. Line writer: `Write` and `Flush` against the specification `linesFrom`, chunk by chunk.
Events: `Evaluate` rewritten as a decision list over four tests (`evaluate_eq`), and what follows once the body is to run.
-/
namespace Dawn.LineWriter

theorem cutNL_spec (b : Bytes) : match cutNL b with
    | none => nl ∉ b
    | some (pre, rest) => b = pre ++ nl :: rest ∧ nl ∉ pre := by
  induction b with
  | nil => simp [cutNL]
  | cons c t ih =>
    by_cases hc : c = nl
    · simp [cutNL, hc]
    · have hc' : ¬nl = c := fun e => hc e.symm
      cases h : cutNL t <;> simpa [cutNL, hc, hc', h] using ih

theorem linesFrom_append_noNL (cur b rest : Bytes) (h : nl ∉ b) :
    linesFrom cur (b ++ rest) = linesFrom (cur ++ b) rest := by
  induction b generalizing cur with
  | nil => simp
  | cons c t ih =>
    simp only [List.mem_cons, not_or] at h
    have hc : c ≠ nl := fun e => h.1 e.symm
    simp only [List.cons_append, linesFrom, hc, ↓reduceIte]
    rw [ih _ h.2]
    simp

theorem linesFrom_append_NL (cur pre rest : Bytes) (h : nl ∉ pre) :
    linesFrom cur (pre ++ nl :: rest) = (cur ++ pre) :: linesFrom [] rest := by
  rw [linesFrom_append_noNL _ _ _ h]
  simp [linesFrom]

/-- `linesFrom` reads a chunk as `Write` does: up to its first newline -/
theorem linesFrom_cutNL (cur b rest : Bytes) : linesFrom cur (b ++ rest) =
    match cutNL b with
    | none => linesFrom (cur ++ b) rest
    | some (pre, rest') => (cur ++ pre) :: linesFrom [] (rest' ++ rest) := by
  have h := cutNL_spec b
  split <;> rename_i hcut <;> rw [hcut] at h
  · exact linesFrom_append_noNL _ _ _ h
  · rw [h.1, List.append_assoc, List.cons_append, linesFrom_append_NL _ _ _ h.2]

/-- The invariant of `Write`: the builder content is the pending partial line of everything written so far. -/
theorem write_spec (line b rest : Bytes) :
    linesFrom line (b ++ rest) = (write line b).2 ++ linesFrom (write line b).1 rest := by
  fun_induction write line b generalizing rest with
  | case1 line b _ hcut => rw [linesFrom_cutNL, hcut]; rfl
  | case2 line b _ pre rest' hcut _ hz r ih =>
    obtain rfl := List.eq_nil_of_length_eq_zero hz
    rw [linesFrom_cutNL, hcut]
    exact congrArg _ (ih rest)
  | case3 line b _ pre rest' hcut _ _ r ih =>
    rw [linesFrom_cutNL, hcut]
    exact congrArg _ (ih rest)
  | case4 line b hb =>
    obtain rfl : b = [] := List.eq_nil_of_length_eq_zero (by omega)
    rfl

theorem flush_eq (line : Bytes) : flush line = ([], linesFrom line []) := by
  cases line <;> rfl

def opsText : List Op → Bytes
  | [] => []
  | .write b :: ops => b ++ opsText ops
  | .flush :: ops => opsText ops

theorem runWith_append (fl) (line : Bytes) (a b : List Op) :
    runWith fl line (a ++ b) =
      ((runWith fl (runWith fl line a).1 b).1, (runWith fl line a).2 ++ (runWith fl (runWith fl line a).1 b).2) := by
  induction a generalizing line with
  | nil => simp [runWith]
  | cons o os ih =>
    cases o <;> simp [runWith, ih]

theorem run_writes_spec (line : Bytes) (chunks : List Bytes) (rest : Bytes) :
    linesFrom line (chunks.flatten ++ rest) =
      (run line (chunks.map Op.write)).2 ++ linesFrom (run line (chunks.map Op.write)).1 rest := by
  induction chunks generalizing line with
  | nil => simp [run, runWith]
  | cons c cs ih =>
    simp only [List.flatten_cons, List.append_assoc, List.map_cons, run, runWith]
    rw [write_spec line c (cs.flatten ++ rest)]
    have := ih (write line c).1
    simp only [run] at this
    rw [this]

theorem run_writes_flush (line : Bytes) (chunks : List Bytes) :
    run line (chunks.map Op.write ++ [Op.flush]) = ([], linesFrom line chunks.flatten) := by
  have h := run_writes_spec line chunks []
  rw [List.append_nil] at h
  simp only [run] at h ⊢
  rw [runWith_append, h]
  simp only [runWith, flush_eq, List.append_nil]

end Dawn.LineWriter

namespace Dawn.Events

/-- the first dependency that did not succeed, if any -/
def firstFailed : List Dep → Option Dep
  | [] => none
  | .ok :: ds => firstFailed ds
  | d :: _ => some d

theorem firstFailed_ne_ok (ds : List Dep) : firstFailed ds ≠ some .ok := by
  induction ds with
  | nil => simp [firstFailed]
  | cons d ds ih => cases d <;> simp [firstFailed, ih]

theorem depLoop_eq (ds : List Dep) :
    depLoop ds = match firstFailed ds with
      | none => none
      | some .other => some []
      | some _ => some [.failed] := by
  induction ds with
  | nil => rfl
  | cons d ds ih => cases d <;> simp [depLoop, firstFailed, ih]

/-- once the decision to run the body is taken, the target ends with `succeeded` (and not with `failed`) -/
def succeeds (f : Facts) : Bool :=
  f.dryRun || ((!f.isTarget || f.preSaveOk) && (f.bodyOk && f.saveOk))

theorem succeeds_iff (f : Facts) : succeeds f = true ↔
    f.dryRun = true ∨ ((f.isTarget = false ∨ f.preSaveOk = true) ∧ f.bodyOk = true ∧ f.saveOk = true) := by
  simp [succeeds]

theorem succeeds_false_iff (f : Facts) : succeeds f = false ↔
    f.dryRun = false ∧ ((f.isTarget = true ∧ f.preSaveOk = false) ∨ f.bodyOk = false ∨ f.saveOk = false) := by
  unfold succeeds
  cases f.dryRun <;> cases f.isTarget <;> cases f.preSaveOk <;> cases f.bodyOk <;> cases f.saveOk <;> decide

theorem evaluate_eq (f : Facts) : evaluate f =
    match firstFailed f.deps with
    | some .other => ([], true)
    | some _ => ([.failed], true)
    | none =>
      if f.upToDateErr then ([.failed], true) else if f.skip then ([.upToDate], false)
      else if succeeds f then ([.evaluating, .succeeded], false) else ([.evaluating, .failed], true) := by
  simp only [evaluate, depLoop_eq, succeeds]
  cases firstFailed f.deps with
  | some d => cases d <;> rfl
  | none =>
    -- the tail of the chain, from the dry-run test on, against `succeeds`: a truth table
    obtain ⟨_, _, _, _, _, _, dry, tgt, pre, body, save⟩ := f
    cases dry <;> cases tgt <;> cases pre <;> cases body <;> cases save <;> rfl

theorem bodyWouldRun_eq (f : Facts) :
    bodyWouldRun f = ((firstFailed f.deps).isNone && !f.upToDateErr && !f.skip) := by
  simp only [bodyWouldRun, depLoop_eq]
  cases firstFailed f.deps with
  | none => rfl
  | some d => cases d <;> rfl

theorem bodyRuns_iff (f : Facts) :
    bodyRuns f = true ↔ bodyWouldRun f = true ∧ f.dryRun = false ∧ (f.isTarget = true → f.preSaveOk = true) := by
  rw [show bodyRuns f = (bodyWouldRun f && !f.dryRun && !(f.isTarget && !f.preSaveOk)) from rfl]
  cases f.isTarget <;> simp [and_assoc]

theorem evaluate_of_bodyWouldRun {f : Facts} (h : bodyWouldRun f = true) :
    evaluate f = ([.evaluating, if succeeds f then .succeeded else .failed], !succeeds f) := by
  rw [bodyWouldRun_eq] at h
  rw [evaluate_eq]
  cases hff : firstFailed f.deps with
  | some d => simp [hff] at h
  | none =>
    simp only [hff, Option.isNone_none, Bool.true_and, Bool.and_eq_true, Bool.not_eq_eq_eq_not, Bool.not_true] at h
    simp only [h.1, h.2, Bool.false_eq_true, ↓reduceIte]
    cases succeeds f <;> rfl

end Dawn.Events
