import Dawn.Proofs.BuildInv
/-!
# No spurious rebuilds (C02)

`Settled`: a target a real build visited successfully is left with a record that (1) is not marked `rerun`, (2) lists,
for every dependency, exactly the stamp that dependency shows, and nothing else (as many entries as dependencies),
and (3) passes its own `upToDate` test against the files as they are. Every visit keeps this for the targets visited
before it. A second build of the same tree from the state the first one left (fresh process, fresh load) therefore
skips every one of them.
-/
namespace Dawn.Build

variable {P : Params} {S : Shape} {t : Tree} {o : Opts}

def Settled (P : Params) (t : Tree) (s : BSt) (x : Label) (m : Res) : Prop :=
  ∃ d, t.defs x = some d ∧
    (semRec (s.w.recs x)).rerun = false ∧ m.data = stampOf P (semRec (s.w.recs x)) ∧
    upToDate P s.w d (semRec (s.w.recs x)) = true ∧
    (∀ y ∈ depsOf t x d, ∃ my, s.memo y = some my ∧ my.ok = true ∧ (semRec (s.w.recs x)).deps.lookup y = some my.data) ∧
    (!P.depCount || (semRec (s.w.recs x)).deps.length == (depsOf t x d).length) = true ∧
    attrsOK P d (semRec (s.w.recs x)) = true

def SInv (P : Params) (t : Tree) (s : BSt) : Prop := ∀ x m, s.memo x = some m → m.ok = true → Settled P t s x m

/-- no target of the tree is declared `always` (such targets are out of date by declaration) -/
def NoAlways (t : Tree) : Prop := ∀ l d, t.defs l = some d → d.always = false

theorem Settled.mono {s s' : BSt} {x : Label} {m : Res} (h : Settled P t s x m)
    (hrec : s'.w.recs x = s.w.recs x)
    (hup : ∀ d, t.defs x = some d → upToDate P s'.w d (semRec (s.w.recs x)) = upToDate P s.w d (semRec (s.w.recs x)))
    (hmemo : ∀ y my, s.memo y = some my → s'.memo y = some my) : Settled P t s' x m := by
  obtain ⟨d, hd, h1, h2, h3, h4, h5, h6⟩ := h
  unfold Settled
  rw [hrec]
  exact ⟨d, hd, h1, h2, (hup d hd).trans h3, fun y hy => (h4 y hy).imp fun my h => ⟨hmemo y my h.1, h.2⟩, h5, h6⟩

theorem exec_settled (hc : Conforms S t) {l : Label} {d : Def} (hd : t.defs l = some d)
    (P : Params) (o : Opts) (w : World) (info : Rec) (dd : List (Label × Stamp))
    (hv : (execSteps P t o w l d info dd).2.2 = true) :
    (execSteps P t o w l d info dd).2.1.rerun = false ∧ (execSteps P t o w l d info dd).2.1.deps = dd ∧
    attrsOK P d (execSteps P t o w l d info dd).2.1 = true ∧
    upToDate P (applySteps w (execSteps P t o w l d info dd).1) d (execSteps P t o w l d info dd).2.1 = true := by
  rw [applySteps_exec]
  rcases execSteps_cases P t o w l d info dd with ⟨hk, hws, hr, _⟩ | ⟨_, _, _, _, hf⟩ | ⟨hk, _, hws, hr, _⟩
  · rw [hr, hws]; simp [upToDate, attrsOK, hk, writeAll]
  · rw [hf] at hv; cases hv
  · rw [hr, hws]
    refine ⟨rfl, rfl, by simp [attrsOK], ?_⟩
    -- every declared output has just been written
    simp only [upToDate, hk]
    split
    · rfl
    · simp only [beq_self_eq_true, Bool.true_and, List.all_eq_true]
      intro g hg
      rw [writeAll_bodyWrites hc P w hd hk _ hg]; rfl

/-- the entry a real visit makes, when it is a success, is settled: a skip passed the very tests `Settled` asks for, an
execution has just established them -/
theorem Visited.settled {s s' : BSt} {l : Label} {ss : List Step}
    (hv : Visited P t o s l ss s') (hc : Conforms S t) (hdry : o.dry = false) (hfresh : s.memo l = none)
    {m : Res} (hm : s'.memo l = some m) (hok : m.ok = true) : Settled P t s' l m := by
  cases hv with
  | undefined => cases (upd_same ..).symm.trans hm; cases hok
  | depFailed => cases (upd_same ..).symm.trans hm; cases hok
  | dry _ _ _ _ h => rw [hdry] at h; cases h
  | skip d hd hdok hsk =>
    cases (upd_same ..).symm.trans hm
    obtain ⟨-, hdeps, hlen, hattrs, hup, hrr⟩ := hsk
    have hinfo := loadedInfo_rerun_false hrr
    rw [hinfo] at hdeps hlen hattrs hup hrr ⊢
    refine ⟨d, hd, hrr, rfl, hup, fun y hy => ?_, hlen, hattrs⟩
    obtain ⟨my, hmy, hmyok⟩ := hdok y hy
    obtain ⟨my', hmy', -, hl⟩ := hdeps y hy
    cases hmy.symm.trans hmy'
    exact ⟨my, memo_fresh_mono hfresh hmy, hmyok, hl⟩
  | run d hd hdok =>
    cases (upd_same ..).symm.trans hm
    cases hv : (execSteps P t o s.w l d (loadedInfo s.w l d) (depData t s l d)).2.2 with
    | false => rw [hv] at hok; cases hok
    | true =>
      obtain ⟨h1, h2, h3, h4⟩ := exec_settled hc hd P o s.w (loadedInfo s.w l d) (depData t s l d) hv
      have hrec : semRec ((applySteps s.w (execSteps P t o s.w l d (loadedInfo s.w l d) (depData t s l d)).1).recs l) =
          (execSteps P t o s.w l d (loadedInfo s.w l d) (depData t s l d)).2.1 := by
        rw [applySteps_exec]; simp [semRec]
      unfold Settled
      rw [hrec, h2]
      refine ⟨d, hd, h1, rfl, h4, fun y hy => ?_, by simp [depData], h3⟩
      obtain ⟨my, hmy, hmyok⟩ := hdok y hy
      exact ⟨my, memo_fresh_mono hfresh hmy, hmyok, depData_lookup hy hmy⟩

theorem visit_settled {s : BSt} {l : Label}
    (hc : Conforms S t) (hdry : o.dry = false) (si : SInv P t s) (ord : Order t s l) :
    SInv P t (visit P t o s l) := by
  intro x m hx hok
  by_cases hxl : x = l
  · subst hxl
    exact (visit_cases P t o s x).settled hc hdry ord.fresh hx hok
  · -- an earlier entry: by `Order` the target does not depend on `l`, so what `Settled` reads of it is untouched
    obtain ⟨res, hmemo⟩ := visit_memo P t o s l
    rw [hmemo, upd_other _ _ _ _ hxl] at hx
    exact (si x m hx hok).mono (visit_recs_other P t o s hxl)
      (fun dx hdx => have h := visit_own_files hc P o s hdx hxl (ord.above x m dx hx hok hdx); upToDate_files P dx _ h.1 h.2)
      (fun y my h => hmemo ▸ memo_fresh_mono ord.fresh h)

theorem sinv_init (P : Params) (t : Tree) (w : World) : SInv P t (BSt.init w) := by
  intro x m h; cases h

theorem build_settled {P : Params} {S : Shape} {t : Tree} {o : Opts} (hc : Conforms S t) (hdry : o.dry = false) :
    ∀ (ord : List Label) (s : BSt), SInv P t s → Ordered P t o s ord → SInv P t (build P t o s ord) :=
  fun ord s si ho => build_rel (P' := P) (t' := t) (o' := o) (R := fun s _ => SInv P t s)
    (fun _ _ _ h ho => visit_settled hc hdry h ho) ord s s si ho

/-- the state of a second build while it has skipped everything so far -/
structure Quiet (P : Params) (w1 : World) (s : BSt) (seen : List Label) : Prop where
  files : s.w.files = w1.files
  recs : ∀ l, semRec (s.w.recs l) = semRec (w1.recs l)
  execs : s.execs = []
  steps : s.steps = []
  evs : ∀ e ∈ s.evs, ∃ l, e = .upToDate l
  memo : ∀ y ∈ seen, s.memo y = some ⟨true, false, stampOf P (semRec (w1.recs y)), false⟩

/-- the remaining targets come dependencies-first -/
def DepsFirst (t : Tree) : List Label → List Label → Prop
  | _, [] => True
  | seen, x :: rest => (∀ d, t.defs x = some d → ∀ y ∈ depsOf t x d, y ∈ seen) ∧ DepsFirst t (x :: seen) rest

theorem rebuild_quiet {P : Params} {t : Tree} {o2 : Opts} (hna : NoAlways t) (hal : o2.always = false)
    {s1 : BSt} (si : SInv P t s1) :
    ∀ (ord : List Label) (seen : List Label) (s : BSt),
      (∀ x ∈ ord, ∃ m, s1.memo x = some m ∧ m.ok = true) → (∀ x ∈ seen, ∃ m, s1.memo x = some m ∧ m.ok = true) →
      DepsFirst t seen ord → Quiet P s1.w s seen →
      Quiet P s1.w (build P t o2 s ord) (ord.reverse ++ seen) := by
  intro ord
  induction ord with
  | nil => intro seen s _ _ _ q; exact q
  | cons x rest ih =>
    intro seen s hok hseen hdf q
    obtain ⟨mx, hmx, hmxok⟩ := hok x List.mem_cons_self
    obtain ⟨d, hd, hrr, _, hup, hdeps, hlen, hattrs⟩ := si x mx hmx hmxok
    -- the record is the one the first build left, every dependency was skipped with the stamp it lists: skip again
    have hinfo : loadedInfo s.w x d = semRec (s1.w.recs x) := by
      rw [loadedInfo_eq, hna x d hd, Bool.and_false, Bool.false_or]; exact q.recs x
    have hdok : DepsOk t s x d := fun y hy => ⟨_, q.memo y (hdf.1 d hd y hy), rfl⟩
    have hsk : SkipOK P t o2 s x d := by
      refine ⟨hal, fun y hy => ⟨_, q.memo y (hdf.1 d hd y hy), rfl, ?_⟩, ?_, ?_, ?_, ?_⟩ <;> rw [hinfo]
      · obtain ⟨my, hmy, hmyok, hl⟩ := hdeps y hy
        obtain ⟨_, _, _, hdata, _⟩ := si y my hmy hmyok
        rw [hl, hdata]
      · exact hlen
      · exact hattrs
      · exact (upToDate_files P d _ (fun _ => by rw [q.files]) fun _ g _ => by rw [q.files]).trans hup
      · exact hrr
    have := ih (x :: seen) (visit P t o2 s x) (fun y hy => hok y (List.mem_cons_of_mem _ hy))
      (List.forall_mem_cons.mpr ⟨⟨mx, hmx, hmxok⟩, hseen⟩) hdf.2 (by
        rw [visit_skip hd hdok hsk, hinfo]
        refine ⟨q.files, q.recs, q.execs, q.steps, List.forall_mem_cons.mpr ⟨⟨x, rfl⟩, q.evs⟩, ?_⟩
        refine List.forall_mem_cons.mpr ⟨upd_same .., fun y hy => ?_⟩
        by_cases e : y = x
        · rw [e]; exact upd_same ..
        · exact (upd_other _ _ _ _ e).trans (q.memo y hy))
    simpa [build, List.reverse_cons, List.append_assoc] using this

end Dawn.Build
