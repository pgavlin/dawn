import Dawn.Model.Glob
/-! The executable matcher `run` against the positional semantics `M`, and the expression compiled from a token list
against the specification `globMatch`. -/
namespace Dawn.Glob

theorem mem_splits {l a b : List Char} : (a, b) ∈ splits l ↔ l = a ++ b := by
  induction l generalizing a with
  | nil => simp [splits, eq_comm]
  | cons c t ih =>
    cases a with
    | nil => simp [splits, eq_comm]
    | cons d a => simpa [splits, ih, eq_comm] using and_comm

theorem mem_run {r : RE} {pre rest mid post : List Char} :
    (mid, post) ∈ run r pre rest ↔ rest = mid ++ post ∧ M r pre mid post := by
  induction r generalizing pre rest mid post with
  | eps | none | bol | eol =>
    simp only [run, M]
    try split
    all_goals constructor <;> intro h <;> simp_all
  | lit c | any =>
    cases rest <;> simp only [run, M] <;> try split
    all_goals grind
  | starAny => simp [run, M, mem_splits]
  | starNotSlash => simp only [run, M, List.mem_filter, mem_splits, List.all_eq_true, decide_eq_true_eq]
  | seq a b iha ihb =>
    simp only [run, M, List.mem_flatMap, List.mem_map, Prod.exists, Prod.mk.injEq, iha, ihb]
    constructor
    · rintro ⟨m₁, _, ⟨rfl, ha⟩, m₂, _, ⟨rfl, hb⟩, rfl, rfl⟩
      exact ⟨by simp, m₁, m₂, rfl, ha, hb⟩
    · rintro ⟨rfl, m₁, m₂, rfl, ha, hb⟩
      exact ⟨m₁, m₂ ++ post, ⟨by simp, ha⟩, m₂, post, ⟨rfl, hb⟩, rfl, rfl⟩
  | alt a b iha ihb => simp only [run, M, List.mem_append, iha, ihb, and_or_left]
  | cap r ih => simp only [run, M, ih]

theorem matchString_iff (r : RE) (s : List Char) : matchString r s = true ↔ Matches r s := by
  simp only [matchString, Matches, List.any_eq_true, Prod.exists, Bool.not_eq_true', List.isEmpty_eq_false_iff_exists_mem,
    mem_splits, mem_run]
  constructor
  · rintro ⟨pre, _, rfl, mid, post, rfl, hm⟩
    exact ⟨pre, mid, post, by simp, hm⟩
  · rintro ⟨pre, mid, post, rfl, hm⟩
    exact ⟨pre, mid ++ post, by simp, mid, post, rfl, hm⟩

theorem M_compileToks (ts : List Tok) (pre mid post : List Char) :
    M (compileToks ts) pre mid post ↔ globMatch ts mid := by
  induction ts generalizing pre mid post with
  | nil => simp [compileToks, M, globMatch]
  | cons t ts ih =>
    cases t <;> simp only [compileToks, compileTok, M, globMatch, ih, true_and]
    case q =>
      constructor
      · rintro ⟨_, m₂, rfl, ⟨c, rfl⟩, h⟩; exact ⟨c, m₂, rfl, h⟩
      · rintro ⟨c, m₂, rfl, h⟩; exact ⟨[c], m₂, rfl, ⟨c, rfl⟩, h⟩
    case ch c =>
      constructor
      · rintro ⟨_, m₂, rfl, rfl, h⟩; exact ⟨m₂, rfl, h⟩
      · rintro ⟨m₂, rfl, h⟩; exact ⟨[c], m₂, rfl, rfl, h⟩

theorem M_altAll {rs : List RE} {pre mid post : List Char} :
    M (altAll rs) pre mid post ↔ ∃ r ∈ rs, M r pre mid post := by
  induction rs with
  | nil => simp [altAll, M]
  | cons r rs ih =>
    cases rs with
    | nil => simp [altAll]
    | cons r' rs' =>
      simp only [altAll, M, List.mem_cons, exists_eq_or_imp] at ih ⊢
      rw [ih]

theorem M_union (tss : List (List Tok)) (pre mid post : List Char) :
    M (altAll (tss.map fun g => .cap (compileToks g))) pre mid post ↔ ∃ ts ∈ tss, globMatch ts mid := by
  rw [M_altAll]
  constructor
  · rintro ⟨_, hr, h⟩
    obtain ⟨ts, hts, rfl⟩ := List.mem_map.1 hr
    exact ⟨ts, hts, (M_compileToks ts _ _ _).1 h⟩
  · rintro ⟨ts, hts, h⟩
    exact ⟨_, List.mem_map.2 ⟨ts, hts, rfl⟩, (M_compileToks ts _ _ _).2 h⟩

theorem lexAll_eq_nil {gs : List (List Char)} (h : lexAll gs = .ok []) : gs = [] := by
  cases gs with
  | nil => rfl
  | cons g gs =>
    unfold lexAll at h
    split at h
    · cases h
    · cases h' : lexAll gs <;> simp [h', Except.map] at h

theorem lex_plain {c : Char} (h : c ≠ '\\' ∧ c ≠ '*' ∧ c ≠ '?') (rest : List Char) :
    lex (c :: rest) = (lex rest).map (Tok.ch c :: ·) := by
  -- the last equation of `lex`; its side goals ask that `c :: rest` has the shape of none of the earlier patterns
  rw [lex] <;> intros <;> simp_all

theorem Matches_anchored (r : RE) (s : List Char) :
    Matches (.seq .bol (.seq r .eol)) s ↔ M r [] s [] := by
  simp only [Matches, M]
  constructor
  · rintro ⟨pre, mid, post, rfl, m₁, m₂, rfl, ⟨rfl, rfl⟩, m₃, m₄, rfl, hr, rfl, rfl⟩
    simpa using hr
  · intro h
    exact ⟨[], s, [], by simp, [], s, rfl, ⟨rfl, rfl⟩, s, [], by simp, by simpa using h, rfl, rfl⟩

theorem exists_take_drop {s : List Char} {P : List Char → List Char → Prop} :
    (∃ n, n < s.length + 1 ∧ P (s.take n) (s.drop n)) ↔ ∃ s₁ s₂, s = s₁ ++ s₂ ∧ P s₁ s₂ := by
  constructor
  · rintro ⟨n, _, h⟩; exact ⟨_, _, (List.take_append_drop n s).symm, h⟩
  · rintro ⟨s₁, s₂, rfl, h⟩; exact ⟨s₁.length, by simp; omega, by simpa using h⟩

theorem globMatchB_iff (ts : List Tok) (s : List Char) : globMatchB ts s = true ↔ globMatch ts s := by
  induction ts generalizing s with
  | nil => simp [globMatchB, globMatch]
  | cons t ts ih =>
    cases t with
    | star =>
      simp only [globMatchB, globMatch, List.any_eq_true, List.mem_range, Bool.and_eq_true, List.all_eq_true,
        decide_eq_true_eq, ih]
      exact exists_take_drop (P := fun s₁ s₂ => (∀ c ∈ s₁, c ≠ '/') ∧ globMatch ts s₂)
    | dstar =>
      simp only [globMatchB, globMatch, List.any_eq_true, List.mem_range, ih]
      exact exists_take_drop (P := fun _ s₂ => globMatch ts s₂)
    | q =>
      cases s with
      | nil => simp [globMatchB, globMatch]
      | cons d s₂ =>
        simp only [globMatchB, globMatch, ih, List.cons.injEq]
        exact ⟨fun h => ⟨d, s₂, ⟨rfl, rfl⟩, h⟩, fun ⟨_, _, ⟨rfl, rfl⟩, h⟩ => h⟩
    | ch c =>
      cases s with
      | nil => simp [globMatchB, globMatch]
      | cons d s₂ =>
        simp only [globMatchB, globMatch, Bool.and_eq_true, beq_iff_eq, ih, List.cons.injEq]
        constructor
        · rintro ⟨rfl, h⟩; exact ⟨s₂, ⟨rfl, rfl⟩, h⟩
        · rintro ⟨_, ⟨rfl, rfl⟩, h⟩; exact ⟨rfl, h⟩

end Dawn.Glob
