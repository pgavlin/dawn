import Dawn.Proofs.RunnerCycle
/-!
# Runner: the progress measure

`mu` sums, over a finite set of labels closed under dependencies, a bound on how many steps other than reads of the
cycle walk each thread still has to take. Every step except a walk read strictly decreases it. Together with deadlock
freedom this gives termination under weak fairness (a walk read can repeat only while two other targets sit
between publishing and un-publishing a cycle — DESIGN.md §4).
-/
namespace Dawn.Runner

def rank (P : Params) (l : Label) : Option PC → Nat
  | none => 2 * (P.deps l).length + 16
  | some .enter1 => 2 * (P.deps l).length + 15
  | some .load => 2 * (P.deps l).length + 14
  | some .evalStart => 2 * (P.deps l).length + 13
  | some .exit1 => 2 * (P.deps l).length + 12
  | some (.startDeps todo) => (P.deps l).length + 11 + todo.length
  | some (.walk _) => (P.deps l).length + 10
  | some (.waitDeps todo _) => 9 + todo.length
  | some .unpubCyc => 9
  | some (.enter2 _) => 8
  | some (.evalRest _) => 7
  | some (.finish _ _) => 6
  | some .exit2 => 5
  | some .wgDone => 4
  | some .done => 0

def mainRank : MainPC → Nat
  | .start => 3
  | .wait => 2
  | .waitAll _ => 1
  | .done _ => 0

def mu (P : Params) (nodes : List Label) (s : State) : Nat :=
  mainRank s.main + (nodes.map fun l => rank P l (s.pc l)).sum

theorem sum_map_le (nodes : List Label) (f g : Label → Nat) (h : ∀ x ∈ nodes, g x ≤ f x) :
    (nodes.map g).sum ≤ (nodes.map f).sum ∧ ∀ l ∈ nodes, g l < f l → (nodes.map g).sum < (nodes.map f).sum := by
  induction nodes with
  | nil => exact ⟨Nat.le_refl _, nofun⟩
  | cons a t ih =>
    obtain ⟨hle, hlt⟩ := ih fun x hx => h x (List.mem_cons_of_mem _ hx)
    have ha := h a List.mem_cons_self
    simp only [List.map_cons, List.sum_cons]
    refine ⟨by omega, fun l hl hl' => ?_⟩
    rcases List.mem_cons.mp hl with rfl | hl
    · omega
    · have := hlt l hl hl'; omega

theorem reach_in_nodes {P : Params} {nodes : List Label} (hroot : P.root ∈ nodes)
    (hclosed : ∀ l ∈ nodes, ∀ d ∈ P.deps l, d ∈ nodes) {x : Label} (h : ReachRT P P.root x) : x ∈ nodes := by
  rcases h with rfl | h
  · exact hroot
  · exact h.rel (r := fun a b => a ∈ nodes → b ∈ nodes) (fun h1 h2 ha => h2 (h1 ha))
      (fun _ _ h1 ha => hclosed _ ha _ (known_of_mem_edges h1).2) hroot

theorem rank_frame {P : Params} {s s' : State} {l : Option Label} (fr : Frame s s' l) {x : Label} (hx : some x ≠ l) :
    rank P x (s'.pc x) ≤ rank P x (s.pc x) := by
  rcases fr.pc x hx with e | ⟨e, e'⟩
  · rw [e]; exact Nat.le_refl _
  · rw [e, e']; exact Nat.le_succ _

theorem progress {P : Params} {nodes : List Label} (hroot : P.root ∈ nodes)
    (hclosed : ∀ l ∈ nodes, ∀ d ∈ P.deps l, d ∈ nodes)
    {s s' : State} {t : Tid} (hr : Reachable P s) (h : step P s t = some s') :
    (∃ l d rest, t = .tgt l ∧ s.pc l = some (.walk (d :: rest)) ∧ d ≠ l) ∨ mu P nodes s' < mu P nodes s := by
  rcases step_cases h with ⟨_, hm⟩ | ⟨l, p, ht, hp, hts⟩
  · right
    have := (sum_map_le nodes (fun x => rank P x (s.pc x)) (fun x => rank P x (s'.pc x))
      fun x _ => rank_frame (mstep_frame hr.inv hm) (Option.some_ne_none x)).1
    unfold mu
    cases hm with
    | start hm => rw [hm]; show 2 + _ < 3 + _; omega
    | wait hm _ => rw [hm]; show 1 + _ < 2 + _; omega
    | waitAll e hm _ => rw [hm]; show 0 + _ < 1 + _; omega
  · have hln : l ∈ nodes := reach_in_nodes hroot hclosed (hr.inv3.reach_of hp)
    -- the other threads' ranks do not grow, so it is enough that the rank of `l` drops
    have loc : ∀ p', s'.pc l = some p' → rank P l (some p') < rank P l (some p) → mu P nodes s' < mu P nodes s := by
      intro p' hp' hlt
      have := (sum_map_le nodes (fun x => rank P x (s.pc x)) (fun x => rank P x (s'.pc x)) fun x _ => by
        by_cases e : x = l
        · rw [e, hp', hp]; exact Nat.le_of_lt hlt
        · exact rank_frame (tstep_frame hr.inv hts) fun c => e (Option.some.inj c)).2 l hln (by rw [hp', hp]; exact hlt)
      unfold mu; rw [tstep_main hts]; omega
    cases hts with
    | readPub d rest ds hd hw => exact Or.inl ⟨l, d, rest, ht, hp, hd⟩
    | readNil d rest hd hw => exact Or.inl ⟨l, d, rest, ht, hp, hd⟩
    | load => exact Or.inr (loc _ (upd_same _ _ _) (by split <;> simp only [rank] <;> omega))
    | exit1 => exact Or.inr (loc _ (upd_same _ _ _) (by simp only [rank]; omega))
    | found rest => exact Or.inr (loc _ (upd_same _ _ _) (by simp only [rank]; omega))
    | walked => exact Or.inr (loc _ (upd_same _ _ _) (by simp only [rank]; omega))
    | wgDone => exact Or.inr (loc _ (upd_same _ _ _) (Nat.zero_lt_succ _))
    -- every other step moves `l` to the program counter one below in the table
    | _ => exact Or.inr (loc _ (upd_same _ _ _) (Nat.lt_succ_self _))

end Dawn.Runner
