import Dawn.Model.Loader
/-!
The steps of the *fixed* loader model as an inductive relation (one constructor per statement-level step), and
the fact that `next .fixed` takes exactly these steps in states where no module mutex is held across steps —
which is every reachable state of the fixed version (`lockFree_reachable`).
-/
namespace Dawn.Loader

/-- no `m.m` is held across a step (fixed version: `wait` takes it only around the condition wait) and nobody is at
the as-written-only statement `check` (so the `.check` cases of `target`, `topPtr` and `rank` are never met under it) -/
def LockFree (s : State) : Prop := (∀ m, s.mlock m = none) ∧ ∀ t d, s.pc t ≠ .check d

theorem upd_eq_self {α : Type} {f : Nat → α} {i : Nat} {v : α} (h : f i = v) : upd f i v = f := by
  funext x; simp only [upd]; split
  · rename_i e; rw [e, h]
  · rfl

inductive FStep (P : Project) (s : State) (t : Tid) : State → Prop where
  | runBroken (f rest) (hpc : s.pc t = .run) (hst : s.stack t = f :: rest) (hb : P.broken f.mod = true) :
      FStep P s t (setPc s t (.fin .err))
  | runFin (f rest) (hpc : s.pc t = .run) (hst : s.stack t = f :: rest) (hb : P.broken f.mod = false)
      (htd : f.todo = []) :
      FStep P s t (setPc s t (.fin .ok))
  | runCall (f rest d ds) (hpc : s.pc t = .run) (hst : s.stack t = f :: rest) (hb : P.broken f.mod = false)
      (htd : f.todo = d :: ds) :
      FStep P s t (setPc s t (.call d))
  | callFound (d) (hpc : s.pc t = .call d) (hr : s.registry d = true) :
      FStep P s t (setPc s t (.setFound d))
  | callNew (d) (hpc : s.pc t = .call d) (hr : s.registry d = false) :
      FStep P s t { s with registry := upd s.registry d true, pc := upd s.pc t (.setNew d) }
  | setNewRoot (d) (hpc : s.pc t = .setNew d) (hst : s.stack t = []) :
      FStep P s t (setPc s t (.load d))
  | setNewPub (d f rest) (hpc : s.pc t = .setNew d) (hst : s.stack t = f :: rest) :
      FStep P s t (setPc (publish s f.mod d) t (.load d))
  | load (d) (hpc : s.pc t = .load d) :
      FStep P s t { s with stack := upd s.stack t (⟨d, P.loads d⟩ :: s.stack t),
                           execs := upd s.execs d (s.execs d + 1), pc := upd s.pc t .run }
  | setFoundRoot (d) (hpc : s.pc t = .setFound d) (hst : s.stack t = []) :
      FStep P s t (setPc s t (.enter d))
  | setFoundPub (d f rest) (hpc : s.pc t = .setFound d) (hst : s.stack t = f :: rest) :
      FStep P s t (setPc (publish s f.mod d) t (.enter d))
  | enterRoot (d) (hpc : s.pc t = .enter d) (hst : s.stack t = []) :
      FStep P s t (setPc s t (.wlock d))
  | enterWalk (d f rest) (hpc : s.pc t = .enter d) (hst : s.stack t = f :: rest) :
      FStep P s t (setPc s t (.walk d (s.loading d)))
  | walkNone (d) (hpc : s.pc t = .walk d none) :
      FStep P s t (setPc s t (.wlock d))
  | walkCyc (d c) (hpc : s.pc t = .walk d (some c)) (htop : top s t = some c) :
      FStep P s t (setPc s t (.unset .cyc))
  | walkNext (d c) (hpc : s.pc t = .walk d (some c)) (htop : top s t ≠ some c) :
      FStep P s t (setPc s t (.walk d (s.loading c)))
  | wlockRet (d) (hpc : s.pc t = .wlock d) (hl : s.loaded d = true) :
      FStep P s t (setPc s t (.unset (resOf s d)))
  | wlockSleep (d) (hpc : s.pc t = .wlock d) (hl : s.loaded d = false) :
      FStep P s t (goSleep s t d)
  | wake (d) (hpc : s.pc t = .sleep d) (hna : (s.asleep d).contains t = false) (hl : s.loaded d = true) :
      FStep P s t (setPc s t (.unset (resOf s d)))
  | wakeAgain (d) (hpc : s.pc t = .sleep d) (hna : (s.asleep d).contains t = false) (hl : s.loaded d = false) :
      FStep P s t (goSleep s t d)
  | unsetRoot (r) (hpc : s.pc t = .unset r) (hst : s.stack t = []) :
      FStep P s t (setPc s t .finished)
  | unsetOk (f rest) (hpc : s.pc t = .unset .ok) (hst : s.stack t = f :: rest) :
      FStep P s t { s with loading := upd s.loading f.mod none,
                           stack := upd s.stack t (⟨f.mod, f.todo.tail⟩ :: rest), pc := upd s.pc t .run }
  | unsetFail (r f rest) (hpc : s.pc t = .unset r) (hr : r ≠ .ok) (hst : s.stack t = f :: rest) :
      FStep P s t (setPc { s with loading := upd s.loading f.mod none } t (.fin r))
  | fin (r f rest) (hpc : s.pc t = .fin r) (hst : s.stack t = f :: rest) :
      FStep P s t { s with loaded := upd s.loaded f.mod true, result := upd s.result f.mod r,
                           asleep := upd s.asleep f.mod [],
                           ftime := upd s.ftime f.mod s.clock, clock := s.clock + 1,
                           stack := upd s.stack t rest, pc := upd s.pc t (.unset r) }

theorem next_of_fstep {P : Project} {s s' : State} {t : Tid} (lf : LockFree s) (st : FStep P s t s') :
    next .fixed P s t = some s' := by
  have hm := lf.1
  cases st <;> simp_all [next, top, setPc]

/-- `hbody` holds in every reachable state (`Inv1.body`); it is a hypothesis here so that the lemma can stand before
`Inv1` and serve `fstep_of_next` -/
theorem fstep_exists {P : Project} {s : State} {t : Tid} (lf : LockFree s) (hf : s.pc t ≠ .finished)
    (hbody : (s.pc t = .run ∨ ∃ r, s.pc t = .fin r) → s.stack t ≠ [])
    (hna : ∀ d, s.pc t = .sleep d → (s.asleep d).contains t = false) : ∃ s', FStep P s t s' := by
  have stack : s.stack t = [] ∨ ∃ f rest, s.stack t = f :: rest := by
    cases s.stack t <;> simp
  have loaded : ∀ d, s.loaded d = true ∨ s.loaded d = false := fun d => by cases s.loaded d <;> simp
  cases hpc : s.pc t with
  | finished => exact absurd hpc hf
  | check d => exact absurd hpc (lf.2 t d)
  | run =>
    rcases stack with h | ⟨f, rest, h⟩
    · exact absurd h (hbody (.inl hpc))
    · cases hb : P.broken f.mod
      · cases htd : f.todo
        · exact ⟨_, .runFin f rest hpc h hb htd⟩
        · exact ⟨_, .runCall f rest _ _ hpc h hb htd⟩
      · exact ⟨_, .runBroken f rest hpc h hb⟩
  | fin r =>
    rcases stack with h | ⟨f, rest, h⟩
    · exact absurd h (hbody (.inr ⟨r, hpc⟩))
    · exact ⟨_, .fin r f rest hpc h⟩
  | call d =>
    cases hr : s.registry d
    · exact ⟨_, .callNew d hpc hr⟩
    · exact ⟨_, .callFound d hpc hr⟩
  | setNew d =>
    rcases stack with h | ⟨f, rest, h⟩
    · exact ⟨_, .setNewRoot d hpc h⟩
    · exact ⟨_, .setNewPub d f rest hpc h⟩
  | load d => exact ⟨_, .load d hpc⟩
  | setFound d =>
    rcases stack with h | ⟨f, rest, h⟩
    · exact ⟨_, .setFoundRoot d hpc h⟩
    · exact ⟨_, .setFoundPub d f rest hpc h⟩
  | enter d =>
    rcases stack with h | ⟨f, rest, h⟩
    · exact ⟨_, .enterRoot d hpc h⟩
    · exact ⟨_, .enterWalk d f rest hpc h⟩
  | walk d cur =>
    cases cur with
    | none => exact ⟨_, .walkNone d hpc⟩
    | some c =>
      by_cases h : top s t = some c
      · exact ⟨_, .walkCyc d c hpc h⟩
      · exact ⟨_, .walkNext d c hpc h⟩
  | wlock d =>
    rcases loaded d with h | h
    · exact ⟨_, .wlockRet d hpc h⟩
    · exact ⟨_, .wlockSleep d hpc h⟩
  | sleep d =>
    rcases loaded d with h | h
    · exact ⟨_, .wake d hpc (hna d hpc) h⟩
    · exact ⟨_, .wakeAgain d hpc (hna d hpc) h⟩
  | unset r =>
    rcases stack with h | ⟨f, rest, h⟩
    · exact ⟨_, .unsetRoot r hpc h⟩
    · by_cases hr : r = .ok
      · exact ⟨_, .unsetOk f rest (hr ▸ hpc) h⟩
      · exact ⟨_, .unsetFail r f rest hpc hr h⟩

/-- `next .fixed` takes only steps of the relation: a goroutine for which it has a result is not in one of the blocked
situations, so the relation has a step for it (`fstep_exists`), which is the one `next` takes (`next_of_fstep`) -/
theorem fstep_of_next {P : Project} {s s' : State} {t : Tid} (lf : LockFree s)
    (h : next .fixed P s t = some s') : FStep P s t s' := by
  obtain ⟨s'', st⟩ := fstep_exists (P := P) (t := t) lf (fun e => by simp [next, e] at h)
    (fun hp hs => by rcases hp with e | ⟨r, e⟩ <;> simp [next, e, hs] at h)
    (fun d e => Bool.eq_false_iff.2 fun hc => by simp [next, e] at h; exact h.1.1 (by simpa using hc))
  cases (next_of_fstep lf st).symm.trans h
  exact st

theorem lockFree_init (P : Project) : LockFree (init P) := by
  refine ⟨fun _ => rfl, fun t d => ?_⟩
  simp only [init]
  split <;> simp

namespace FStep
variable {P : Project} {s s' : State} {t : Tid}

theorem frame (st : FStep P s t s') (t' : Tid) :
    t' = t ∨ (s'.pc t' = s.pc t' ∧ s'.stack t' = s.stack t') := by
  by_cases h : t' = t
  · exact .inl h
  · cases st <;> simp [setPc, publish, goSleep, h]

theorem pc_ne_finished (st : FStep P s t s') : s.pc t ≠ .finished := by
  cases st <;> simp [*]

theorem registry_iff (st : FStep P s t s') {m : Mod} :
    s'.registry m = true ↔ s.registry m = true ∨ s.pc t = .call m ∧ s'.pc t = .setNew m := by
  cases st
  case callNew d hpc hr =>
    by_cases e : m = d
    · simp [e, hpc]
    · simp [upd, hpc, e, Ne.symm e]
  all_goals simp [setPc, publish, goSleep, *]

theorem loaded_iff (st : FStep P s t s') {m : Mod} :
    s'.loaded m = true ↔ s.loaded m = true ∨ ∃ r f rest, s.pc t = .fin r ∧ s.stack t = f :: rest ∧ f.mod = m := by
  cases st
  case fin r f rest hpc hst =>
    by_cases e : m = f.mod
    · simp [e, hpc, hst]
    · simp [upd, hpc, hst, e, Ne.symm e]
  all_goals simp [setPc, publish, goSleep, *]

theorem loaded_new (st : FStep P s t s') {m : Mod}
    (h : s'.loaded m = true) (h0 : s.loaded m = false) :
    ∃ r f rest, s.pc t = .fin r ∧ s.stack t = f :: rest ∧ f.mod = m ∧ s'.result m = r ∧ s'.ftime m = s.clock ∧
      s'.clock = s.clock + 1 := by
  cases st
  case fin r f rest hpc hst =>
    have e : m = f.mod := Decidable.byContradiction fun e => by simp [upd, e, h0] at h
    exact ⟨r, f, rest, hpc, hst, e.symm, by simp [upd, e], by simp [upd, e], rfl⟩
  all_goals exact absurd (h.symm.trans h0) Bool.noConfusion

theorem clock_le (st : FStep P s t s') : s.clock ≤ s'.clock := by
  cases st <;> simp [setPc, publish, goSleep]

theorem registry_mono (st : FStep P s t s') {m : Mod} (h : s.registry m = true) : s'.registry m = true :=
  st.registry_iff.2 (.inl h)

theorem loaded_mono (st : FStep P s t s') {m : Mod} (h : s.loaded m = true) : s'.loaded m = true :=
  st.loaded_iff.2 (.inl h)

theorem stack_cases (st : FStep P s t s') :
    s'.stack t = s.stack t ∨
    (∃ d, s.pc t = .load d ∧ s'.stack t = ⟨d, P.loads d⟩ :: s.stack t) ∨
    (∃ f rest, s.pc t = .unset .ok ∧ s.stack t = f :: rest ∧ s'.stack t = ⟨f.mod, f.todo.tail⟩ :: rest) ∨
    (∃ r f rest, s.pc t = .fin r ∧ s.stack t = f :: rest ∧ s'.stack t = rest) := by
  cases st
  case load d hpc => exact .inr (.inl ⟨d, hpc, upd_same ..⟩)
  case unsetOk f rest hpc hst => exact .inr (.inr (.inl ⟨f, rest, hpc, hst, upd_same ..⟩))
  case fin r f rest hpc hst => exact .inr (.inr (.inr ⟨r, f, rest, hpc, hst, upd_same ..⟩))
  all_goals exact .inl rfl

theorem mem_stack (st : FStep P s t s') {t' : Tid} {f : Frame} (h : f ∈ s'.stack t') :
    f ∈ s.stack t' ∨ (∃ d, s.pc t = .load d ∧ f = ⟨d, P.loads d⟩) ∨
      ∃ g rest, s.pc t = .unset .ok ∧ s.stack t = g :: rest ∧ t' = t ∧ f = ⟨g.mod, g.todo.tail⟩ := by
  rcases st.frame t' with rfl | ⟨_, hs⟩
  · rcases st.stack_cases with e | ⟨d, hpc, e⟩ | ⟨g, rest, hpc, hst, e⟩ | ⟨r, g, rest, _, hst, e⟩ <;> rw [e] at h
    · exact .inl h
    · exact (List.mem_cons.1 h).elim (fun e => .inr (.inl ⟨d, hpc, e⟩)) .inl
    · exact (List.mem_cons.1 h).elim (fun e => .inr (.inr ⟨g, rest, hpc, hst, rfl, e⟩))
        fun h => .inl (by simp [hst, h])
    · exact .inl (by simp [hst, h])
  · exact .inl (hs ▸ h)

theorem mlock_eq (st : FStep P s t s') : s'.mlock = s.mlock := by
  cases st <;> rfl

end FStep

theorem lockFree_fstep {P : Project} {s s' : State} {t : Tid} (lf : LockFree s) (st : FStep P s t s') : LockFree s' := by
  refine ⟨fun m => st.mlock_eq ▸ lf.1 m, fun t' d => ?_⟩
  rcases st.frame t' with rfl | ⟨hp, _⟩
  · cases st <;> simp [setPc, publish, goSleep]
  · exact hp ▸ lf.2 t' d

theorem lockFree_reachable {P : Project} {s : State} (h : Reachable .fixed P s) : LockFree s := by
  induction h with
  | refl => exact lockFree_init P
  | tail _ st ih => obtain ⟨t, ht⟩ := st; exact lockFree_fstep ih (fstep_of_next ih ht)

theorem reachable_induction {P : Project} {I : State → Prop} (h0 : I (init P))
    (hstep : ∀ s t s', Reachable .fixed P s → I s → FStep P s t s' → I s')
    {s : State} (h : Reachable .fixed P s) : I s := by
  induction h with
  | refl => exact h0
  | tail hs st ih =>
    obtain ⟨t, ht⟩ := st
    exact hstep _ t _ hs ih (fstep_of_next (lockFree_reachable hs) ht)

end Dawn.Loader
