import Dawn.Model.Mvs
/-!
# The version order is a total order

`cmpVersion` (the main project's `""` greatest, `"none"` least, canonical semantic versions by precedence) is
reflexive, antisymmetric, transitive and total; `vmax` is its maximum and the three-way comparison `buildList`
derives from `Reqs.Max` is `cmpVersion` itself. Everything C10 says about "the highest version" rests on this.
-/
namespace Dawn.Mvs

/-- a three-way comparison that describes a total order with `=` as its equivalence -/
structure LawfulCmp {α : Type} (c : α → α → Ordering) : Prop where
  eq_iff : ∀ a b, c a b = .eq ↔ a = b
  swap : ∀ a b, c b a = (c a b).swap
  trans : ∀ a b d, c a b = .lt → c b d = .lt → c a d = .lt

theorem LawfulCmp.refl {α : Type} {c : α → α → Ordering} (h : LawfulCmp c) (a : α) : c a a = .eq :=
  (h.eq_iff a a).mpr rfl

theorem LawfulCmp.gt_iff {α : Type} {c : α → α → Ordering} (h : LawfulCmp c) (a b : α) : c a b = .gt ↔ c b a = .lt := by
  rw [h.swap a b]; cases c a b <;> simp [Ordering.swap]

theorem lawful_compare_nat : LawfulCmp (fun a b : Nat => compare a b) where
  eq_iff _ _ := Nat.compare_eq_eq
  swap a b := (Nat.compare_swap a b).symm
  trans _ _ _ h1 h2 := Nat.compare_eq_lt.mpr (Nat.lt_trans (Nat.compare_eq_lt.mp h1) (Nat.compare_eq_lt.mp h2))

def lexOrd (o1 o2 : Ordering) : Ordering := match o1 with | .eq => o2 | o => o

theorem lexOrd_eq_eq {o1 o2 : Ordering} : lexOrd o1 o2 = .eq ↔ o1 = .eq ∧ o2 = .eq := by
  cases o1 <;> simp [lexOrd]

theorem lexOrd_swap (o1 o2 : Ordering) : (lexOrd o1 o2).swap = lexOrd o1.swap o2.swap := by
  cases o1 <;> rfl

theorem lexOrd_eq_lt {o1 o2 : Ordering} : lexOrd o1 o2 = .lt ↔ o1 = .lt ∨ (o1 = .eq ∧ o2 = .lt) := by
  cases o1 <;> simp [lexOrd]

theorem lexOrd_trans {α : Type} {c : α → α → Ordering} (h : LawfulCmp c) {x y z : α} {p q r : Ordering}
    (hr : p = .lt → q = .lt → r = .lt)
    (h1 : lexOrd (c x y) p = .lt) (h2 : lexOrd (c y z) q = .lt) : lexOrd (c x z) r = .lt := by
  rw [lexOrd_eq_lt] at h1 h2 ⊢
  rcases h1 with h1 | ⟨e1, h1⟩
  · rcases h2 with h2 | ⟨e2, _⟩
    · exact Or.inl (h.trans _ _ _ h1 h2)
    · exact Or.inl ((h.eq_iff y z).mp e2 ▸ h1)
  · rw [(h.eq_iff x y).mp e1]
    exact h2.imp id fun h2 => ⟨h2.1, hr h1 h2.2⟩

theorem lawful_cmpChar : LawfulCmp cmpChar where
  eq_iff _ _ := Nat.compare_eq_eq.trans ⟨fun h => Char.ext (UInt32.toNat_inj.mp h), fun h => h ▸ rfl⟩
  swap _ _ := lawful_compare_nat.swap _ _
  trans _ _ _ := lawful_compare_nat.trans _ _ _

theorem cmpList_cons_cons {α : Type} (c : α → α → Ordering) (a b : α) (as bs : List α) :
    cmpList c (a :: as) (b :: bs) = lexOrd (c a b) (cmpList c as bs) := rfl

theorem cmpList_lawful {α : Type} {c : α → α → Ordering} (h : LawfulCmp c) : LawfulCmp (cmpList c) where
  eq_iff a := by
    induction a with
    | nil =>
      intro b
      cases b with
      | nil => exact ⟨fun _ => rfl, fun _ => rfl⟩
      | cons y ys => exact ⟨(nomatch ·), (nomatch ·)⟩
    | cons x xs ih =>
      intro b
      cases b with
      | nil => exact ⟨(nomatch ·), (nomatch ·)⟩
      | cons y ys => rw [cmpList_cons_cons, lexOrd_eq_eq, h.eq_iff, ih, List.cons.injEq]
  swap a := by
    induction a with
    | nil => intro b; cases b <;> rfl
    | cons x xs ih =>
      intro b
      cases b with
      | nil => rfl
      | cons y ys => rw [cmpList_cons_cons, cmpList_cons_cons, lexOrd_swap, h.swap x y, ih]
  trans a := by
    induction a with
    | nil =>
      intro b d h1 h2
      cases b with
      | nil => cases h1
      | cons y ys => cases d with
        | nil => cases h2
        | cons z zs => rfl
    | cons x xs ih =>
      intro b d h1 h2
      cases b with
      | nil => cases h1
      | cons y ys =>
        cases d with
        | nil => cases h2
        | cons z zs => exact lexOrd_trans h (ih ys zs) h1 h2

theorem cmpList_append_lt {α : Type} {c : α → α → Ordering} (h : LawfulCmp c) (l : List α) (x : α) (r : List α) :
    cmpList c l (l ++ x :: r) = .lt := by
  induction l with
  | nil => rfl
  | cons a l ih => rw [List.cons_append, cmpList_cons_cons, h.refl]; exact ih

theorem lawful_preId : LawfulCmp PreId.cmp where
  eq_iff a b := by
    cases a <;> cases b <;> simp [PreId.cmp, (cmpList_lawful lawful_cmpChar).eq_iff]
  swap a b := by
    cases a <;> cases b <;> simp [PreId.cmp, Ordering.swap]
    · exact lawful_compare_nat.swap _ _
    · exact (cmpList_lawful lawful_cmpChar).swap _ _
  trans a b d h1 h2 := by
    cases a <;> cases b <;> cases d <;> simp only [PreId.cmp, reduceCtorEq] at h1 h2 ⊢
    · exact lawful_compare_nat.trans _ _ _ h1 h2
    · exact (cmpList_lawful lawful_cmpChar).trans _ _ _ h1 h2

theorem lawful_cmpPre : LawfulCmp cmpPre where
  eq_iff a b := by
    cases a <;> cases b <;> simp [cmpPre]
    exact (cmpList_lawful lawful_preId).eq_iff _ _ |>.trans (by simp)
  swap a b := by
    cases a <;> cases b <;> simp [cmpPre, Ordering.swap]
    exact (cmpList_lawful lawful_preId).swap _ _
  trans a b d h1 h2 := by
    cases a <;> cases b <;> cases d <;> simp [cmpPre] at h1 h2 ⊢
    exact (cmpList_lawful lawful_preId).trans _ _ _ h1 h2

theorem lawful_lex {α β : Type} {c1 : α → α → Ordering} {c2 : β → β → Ordering} (h1 : LawfulCmp c1) (h2 : LawfulCmp c2) :
    LawfulCmp (fun (a b : α × β) => lexOrd (c1 a.1 b.1) (c2 a.2 b.2)) where
  eq_iff a b := by rw [lexOrd_eq_eq, h1.eq_iff, h2.eq_iff, Prod.ext_iff]
  swap a b := by rw [h1.swap a.1, h2.swap a.2, lexOrd_swap]
  trans a b d := lexOrd_trans h1 (h2.trans a.2 b.2 d.2)

theorem lawful_comap {α β : Type} {c : β → β → Ordering} (f : α → β) (hf : ∀ a b, f a = f b → a = b) (h : LawfulCmp c) :
    LawfulCmp (fun a b => c (f a) (f b)) where
  eq_iff a b := by rw [h.eq_iff]; exact ⟨hf a b, fun e => by rw [e]⟩
  swap a b := h.swap _ _
  trans a b d := h.trans _ _ _

def SemVer.key (a : SemVer) : Nat × Nat × Nat × List PreId := (a.major, a.minor, a.patch, a.pre)

theorem SemVer.cmp_eq (a b : SemVer) : a.cmp b =
    lexOrd (compare a.major b.major) (lexOrd (compare a.minor b.minor)
      (lexOrd (compare a.patch b.patch) (cmpPre a.pre b.pre))) := rfl

theorem lawful_semver : LawfulCmp SemVer.cmp :=
  -- by `SemVer.cmp_eq`, read as a definitional equality
  lawful_comap SemVer.key (fun a b h => by cases a; cases b; simp_all [SemVer.key])
    (lawful_lex lawful_compare_nat (lawful_lex lawful_compare_nat (lawful_lex lawful_compare_nat lawful_cmpPre)))

theorem cmpVersion_root_ne_lt (d : Ver) : cmpVersion .root d ≠ .lt := by cases d <;> simp [cmpVersion]

theorem cmpVersion_none_ne_lt (a : Ver) : cmpVersion a .none ≠ .lt := by cases a <;> simp [cmpVersion, semverCompare]

theorem lawful_cmpVersion : LawfulCmp cmpVersion where
  eq_iff a b := by
    cases a <;> cases b <;> simp [cmpVersion, semverCompare, lawful_semver.eq_iff]
  swap a b := by
    cases a <;> cases b <;> simp [cmpVersion, semverCompare, Ordering.swap]
    exact lawful_semver.swap _ _
  trans a b d h1 h2 := by
    cases b with
    | root => exact absurd h2 (cmpVersion_root_ne_lt d)
    | none => exact absurd h1 (cmpVersion_none_ne_lt a)
    | sv s =>
      cases a <;> cases d <;> simp [cmpVersion, semverCompare] at h1 h2 ⊢
      exact lawful_semver.trans _ _ _ h1 h2

/-- `a ≤ b` in the order of `cmpVersion` -/
def Ver.le (a b : Ver) : Prop := cmpVersion a b ≠ .gt

instance (a b : Ver) : Decidable (Ver.le a b) := inferInstanceAs (Decidable (_ ≠ _))

theorem Ver.le_iff_not_lt (a b : Ver) : Ver.le a b ↔ cmpVersion b a ≠ .lt :=
  not_congr (lawful_cmpVersion.gt_iff a b)

theorem Ver.le_refl (a : Ver) : Ver.le a a := by simp [Ver.le, lawful_cmpVersion.refl]

theorem Ver.lt_irrefl (a : Ver) : cmpVersion a a ≠ .lt := by simp [lawful_cmpVersion.refl]

theorem Ver.lt_of_not_le {a b : Ver} (h : ¬ Ver.le a b) : cmpVersion b a = .lt :=
  (lawful_cmpVersion.gt_iff a b).mp (Decidable.of_not_not h)

theorem Ver.not_le_of_lt {a b : Ver} (h : cmpVersion a b = .lt) : ¬ Ver.le b a :=
  fun hle => (Ver.le_iff_not_lt b a).mp hle h

theorem Ver.le_of_lt {a b : Ver} (h : cmpVersion a b = .lt) : Ver.le a b := by simp [Ver.le, h]

theorem Ver.le_iff_lt_or_eq (a b : Ver) : Ver.le a b ↔ cmpVersion a b = .lt ∨ a = b := by
  unfold Ver.le
  rw [← lawful_cmpVersion.eq_iff a b]
  cases cmpVersion a b <;> simp

theorem Ver.le_antisymm {a b : Ver} (h1 : Ver.le a b) (h2 : Ver.le b a) : a = b :=
  ((Ver.le_iff_lt_or_eq a b).mp h1).elim (fun h => absurd h2 (Ver.not_le_of_lt h)) id

theorem Ver.le_trans {a b c : Ver} (h1 : Ver.le a b) (h2 : Ver.le b c) : Ver.le a c := by
  rw [Ver.le_iff_lt_or_eq] at h1 h2 ⊢
  rcases h1 with h1 | rfl
  · rcases h2 with h2 | rfl
    · exact Or.inl (lawful_cmpVersion.trans _ _ _ h1 h2)
    · exact Or.inl h1
  · exact h2

theorem Ver.none_le (a : Ver) : Ver.le .none a := (Ver.le_iff_not_lt _ _).mpr (cmpVersion_none_ne_lt a)

theorem Ver.le_root (a : Ver) : Ver.le a .root := (Ver.le_iff_not_lt _ _).mpr (cmpVersion_root_ne_lt a)

theorem semverCompare_eq_sv {a : Ver} {s : SemVer} (h : semverCompare a (.sv s) = .eq) : a = .sv s := by
  cases a with
  | root => simp [semverCompare] at h
  | none => simp [semverCompare] at h
  | sv t => simp only [semverCompare] at h; rw [(lawful_semver.eq_iff t s).mp h]

theorem semverCompare_gt_sv {a b : Ver} (h : semverCompare a b = .gt) : ∃ s, a = .sv s := by
  cases a with
  | sv s => exact ⟨s, rfl⟩
  | root => cases b <;> cases h
  | none => cases b <;> cases h

theorem cmpVersion_of_semver_lt {a b : Ver} (h : semverCompare a b = .lt) (hb : b ≠ .root) (ha : a ≠ .root) :
    cmpVersion a b = .lt := by
  simp [cmpVersion, hb, ha, h]

theorem vmax_eq (a b : Ver) : vmax a b = if cmpVersion a b = .lt then b else a := rfl

/-- the comparison `buildList` reconstructs from `Max` is the version order itself -/
theorem cmpMax_eq (a b : Ver) : cmpMax a b = cmpVersion a b := by
  unfold cmpMax vmax
  have hs := lawful_cmpVersion.swap a b
  cases h : cmpVersion a b with
  | lt =>
    have hne : a ≠ b := fun e => by subst e; rw [lawful_cmpVersion.refl] at h; cases h
    simp [hne.symm]
  | eq =>
    have := (lawful_cmpVersion.eq_iff a b).mp h; subst this
    simp [h]
  | gt =>
    have hne : a ≠ b := fun e => by subst e; rw [lawful_cmpVersion.refl] at h; cases h
    rw [h] at hs
    simp [hs, Ordering.swap, hne]

theorem le_vmax_left (a b : Ver) : Ver.le a (vmax a b) := by
  rw [vmax_eq]; split
  · exact Ver.le_of_lt ‹_›
  · exact Ver.le_refl a

theorem le_vmax_right (a b : Ver) : Ver.le b (vmax a b) := by
  rw [vmax_eq]; split
  · exact Ver.le_refl b
  · exact (Ver.le_iff_not_lt b a).mpr ‹_›

theorem vmax_cases (a b : Ver) : vmax a b = a ∨ vmax a b = b := by
  rw [vmax_eq]; split <;> simp

theorem vmax_root_left (v : Ver) : vmax .root v = .root := by
  rw [vmax_eq, if_neg]
  exact fun h => Ver.le_root v ((lawful_cmpVersion.gt_iff _ _).mpr h)

end Dawn.Mvs
