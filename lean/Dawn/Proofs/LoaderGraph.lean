import Dawn.Proofs.LoaderChain
/-!
The load graph and what the loader makes of it.

* Load paths, reachability from the packages, acyclicity; every `loading` pointer is a load edge; a chain walk only
  ever stands on modules reachable from where it started (`Inv4`), so a cyclic-dependency verdict exhibits a cycle of
  `load` statements.
* Completion (`Inv5`): what has been loaded successfully has all its `load` targets loaded successfully, earlier.
* Every error has a cause in the project (`Sound`): in an acyclic project without broken modules nothing fails.
* A module whose environment cannot be set up executes nothing and finishes with that error (`InvB`).
-/
namespace Dawn.Loader

/-- `b` is reached from `a` through one or more `load` statements -/
inductive Path (P : Project) : Mod → Mod → Prop where
  | edge {a b : Mod} : b ∈ P.loads a → Path P a b
  | cons {a b c : Mod} : b ∈ P.loads a → Path P b c → Path P a c

theorem Path.trans {P : Project} {a b c : Mod} (h : Path P a b) (h2 : Path P b c) : Path P a c := by
  induction h with
  | edge e1 => exact .cons e1 h2
  | cons e1 _ ih => exact .cons e1 (ih h2)

theorem Path.snoc {P : Project} {a b c : Mod} (h : Path P a b) (e : c ∈ P.loads b) : Path P a c :=
  h.trans (.edge e)

/-- `m` is the BUILD file of a package or is reached from one -/
def Reach (P : Project) (m : Mod) : Prop := ∃ r ∈ P.roots, r = m ∨ Path P r m

theorem Reach.path {P : Project} {a b : Mod} (h : Reach P a) (p : Path P a b) : Reach P b := by
  obtain ⟨r, hr, h1 | h1⟩ := h
  · subst h1; exact ⟨r, hr, .inr p⟩
  · exact ⟨r, hr, .inr (h1.trans p)⟩

theorem Reach.step {P : Project} {a b : Mod} (h : Reach P a) (e : b ∈ P.loads a) : Reach P b :=
  h.path (.edge e)

/-- no module that the project can reach loads itself, directly or indirectly -/
def Acyclic (P : Project) : Prop := ∀ m, Reach P m → ¬ Path P m m

theorem acyclic_of_rank {P : Project} (rank : Mod → Nat) (h : ∀ a b, b ∈ P.loads a → rank b < rank a) : Acyclic P := by
  intro m _ hp
  have : ∀ a b, Path P a b → rank b < rank a := by
    intro a b p
    induction p with
    | edge e => exact h _ _ e
    | cons e _ ih => exact Nat.lt_trans ih (h _ _ e)
  exact absurd (this m m hp) (Nat.lt_irrefl _)

theorem head_todo_edge {P : Project} {s : State} (inv1 : Inv1 P s) {t : Tid} {f : Frame} (hf : f ∈ s.stack t) {d : Mod}
    (h : f.todo.head? = some d) : d ∈ P.loads f.mod :=
  (inv1.suffix t f hf).subset (List.mem_of_mem_head? h)

theorem chain_edges {P : Project} {s : State} (inv1 : Inv1 P s) {t : Tid} :
    ∀ (pre stk : List Frame) (p : Option Mod), s.stack t = pre ++ stk → chainOK s.loading p stk →
      (∀ f rest d, stk = f :: rest → p = some d → f.todo.head? = some d) →
      ∀ f ∈ stk, ∀ d, s.loading f.mod = some d → f.todo.head? = some d := by
  intro pre stk
  induction stk generalizing pre with
  | nil => intro p _ _ _ f hf; simp at hf
  | cons g rest ih =>
    intro p hst hc htop f hf d hd
    simp only [chainOK] at hc
    simp only [List.mem_cons] at hf
    rcases hf with rfl | hf
    · rw [hc.1] at hd
      exact htop f rest d rfl hd
    · refine ih (pre ++ [g]) (some g.mod) (by simp [hst]) hc.2 ?_ f hf d hd
      intro f2 rest2 d2 hr hp
      cases hp
      subst hr
      exact inv1.lower_busy t g f2 rest2 pre (by simp [hst])

theorem loading_edge {P : Project} {s : State} (inv1 : Inv1 P s) (inv3 : Inv3 s) {x d : Mod}
    (h : s.loading x = some d) : d ∈ P.loads x ∧ ∃ t f, f ∈ s.stack t ∧ f.mod = x := by
  have hin : ∃ t f, f ∈ s.stack t ∧ f.mod = x := by
    apply Classical.byContradiction
    intro hn
    have := inv3.free_none x (fun t f hf e => hn ⟨t, f, hf, e⟩)
    rw [this] at h; cases h
  obtain ⟨t, f, hf, rfl⟩ := hin
  refine ⟨?_, t, f, hf, rfl⟩
  cases hs : s.stack t with
  | nil => simp [hs] at hf
  | cons g rest =>
    have hc := inv3.chain t g rest hs
    have htop : ∀ f' rest' d', g :: rest = f' :: rest' → topPtr (s.pc t) g = some d' → f'.todo.head? = some d' := by
      intro f' rest' d' he hp
      cases he
      -- the top frame: the pointer is the target of the pc, or (when returning) the head of the remaining loads
      have ht := inv1.tgt_frame t g rest d' hs
      cases hpc : s.pc t <;> simp only [topPtr, hpc, target, reduceCtorEq, Option.some.injEq] at hp ht
      all_goals first
        | exact hp
        | exact ht (by rw [hp])
    have := chain_edges inv1 (t := t) [] (g :: rest) _ (by simp [hs]) hc htop f (by rw [hs] at hf; exact hf) d h
    exact head_todo_edge inv1 hf this

structure Inv4 (P : Project) (s : State) : Prop where
  walk_path : ∀ t d c, s.pc t = .walk d (some c) → Path P d c
  reg_reach : ∀ m, s.registry m = true → Reach P m

theorem Inv4.tgt_reach {P : Project} {s : State} (inv1 : Inv1 P s) (inv : Inv4 P s) (t : Tid) (d : Mod)
    (h : target (s.pc t) = some d) : Reach P d := by
  cases hs : s.stack t with
  | nil => exact ⟨d, List.mem_of_getElem? (inv1.tgt_root t d hs h), .inl rfl⟩
  | cons f rest =>
    have hf : f ∈ s.stack t := by simp [hs]
    exact (inv.reg_reach f.mod (inv1.frame_reg t f hf)).step (head_todo_edge inv1 hf (inv1.tgt_frame t f rest d hs h))

theorem inv4_init (P : Project) : Inv4 P (init P) := by
  refine ⟨fun t d c h => ?_, fun m h => absurd h Bool.false_ne_true⟩
  rcases init_pc P t with ⟨_, h2⟩ | ⟨r, _, h2⟩ <;> rw [h2] at h <;> cases h

theorem inv4_fstep {P : Project} {s s' : State} {t : Tid} (inv1 : Inv1 P s) (inv3 : Inv3 s) (inv : Inv4 P s)
    (st : FStep P s t s') : Inv4 P s' := by
  refine ⟨fun t' d c h => ?_, fun m h => (st.registry_iff.1 h).elim (inv.reg_reach m) fun ⟨hpc, _⟩ =>
    inv.tgt_reach inv1 t m (by rw [hpc]; rfl)⟩
  rcases st.frame t' with rfl | ⟨hp, _⟩
  · -- a walk is entered at, and moves along, a `loading` pointer, which is a load edge
    cases st <;> simp only [setPc, publish, goSleep, upd_same, reduceCtorEq, PC.walk.injEq] at h
    case enterWalk => exact h.1 ▸ .edge (loading_edge inv1 inv3 h.2).1
    case walkNext d' c' hpc _ => exact h.1 ▸ (inv.walk_path t' d' c' hpc).snoc (loading_edge inv1 inv3 h.2).1
  · exact inv.walk_path t' d c (hp ▸ h)

theorem inv4_reachable {P : Project} {s : State} (h : Reachable .fixed P s) : Inv4 P s :=
  reachable_induction (I := Inv4 P) (inv4_init P)
    (fun _ _ _ hr ih st => inv4_fstep (inv1_reachable hr) (inv3_reachable hr) ih st) h

theorem verdict_cycle {P : Project} {s : State} (inv1 : Inv1 P s) (inv4 : Inv4 P s) {t : Tid} {d c : Mod}
    (hpc : s.pc t = .walk d (some c)) (htop : top s t = some c) : Reach P c ∧ Path P c c := by
  cases hs : s.stack t with
  | nil => simp [top, hs] at htop
  | cons f rest =>
    simp only [top, hs, List.head?_cons, Option.map_some, Option.some.injEq] at htop
    have hf : f ∈ s.stack t := by simp [hs]
    have hd := inv1.tgt_frame t f rest d hs (by simp [hpc, target])
    have he := head_todo_edge inv1 hf hd
    rw [htop] at he
    refine ⟨?_, .cons he (inv4.walk_path t d c hpc)⟩
    rw [← htop]
    exact inv4.reg_reach f.mod (inv1.frame_reg t f hf)

def okLoaded (s : State) (m : Mod) : Prop := s.loaded m = true ∧ s.result m = .ok

structure Inv5 (P : Project) (s : State) : Prop where
  /-- the `load`s of a body that have been executed succeeded -/
  done_prefix : ∀ t f, f ∈ s.stack t → ∀ pre, P.loads f.mod = pre ++ f.todo → ∀ d ∈ pre, okLoaded s d
  unset_ok : ∀ t f rest d, s.pc t = .unset .ok → s.stack t = f :: rest → f.todo.head? = some d → okLoaded s d
  fin_ok : ∀ t f rest, s.pc t = .fin .ok → s.stack t = f :: rest → f.todo = []
  ok_closed : ∀ m, okLoaded s m → ∀ d ∈ P.loads m, okLoaded s d ∧ s.ftime d < s.ftime m
  ftime_lt : ∀ m, s.loaded m = true → s.ftime m < s.clock
  bottom : ∀ t m, (mods s t).getLast? = some m → P.roots[t]? = some m
  root_done : ∀ t r, P.roots[t]? = some r → (s.pc t = .finished ∨ (∃ x, s.pc t = .unset x) ∧ s.stack t = []) →
      s.loaded r = true

theorem inv5_init (P : Project) : Inv5 P (init P) := by
  constructor
  · intro t f h; simp [init] at h
  · intro t f rest d _ h; simp [init] at h
  · intro t f rest _ h; simp [init] at h
  · intro m h; simp [okLoaded, init] at h
  · intro m h; simp [init] at h
  · intro t m h; simp [init, mods] at h
  · intro t r hr h
    rcases init_pc P t with ⟨h1, _⟩ | ⟨r', _, h2⟩
    · rw [h1] at hr; cases hr
    · rw [h2] at h; simp at h

/-- what is loaded stays as it is: `done` writes the result and completion time of a module that is not loaded yet -/
theorem FStep.loaded_keep {P : Project} {s s' : State} {t : Tid} (inv2 : Inv2 s) (st : FStep P s t s') {m : Mod}
    (h : s.loaded m = true) : s'.result m = s.result m ∧ s'.ftime m = s.ftime m := by
  cases st
  case fin r f rest hpc hst =>
    have : m ≠ f.mod := fun e => by simp [e, (inv2.frame_live t f.mod (by simp [mods, hst])).1] at h
    simp [upd, this]
  all_goals exact ⟨rfl, rfl⟩

theorem FStep.okLoaded_mono {P : Project} {s s' : State} {t : Tid} (inv2 : Inv2 s) (st : FStep P s t s') {m : Mod}
    (h : okLoaded s m) : okLoaded s' m :=
  ⟨st.loaded_mono h.1, (st.loaded_keep inv2 h.1).1 ▸ h.2⟩

theorem inv5_fstep {P : Project} {s s' : State} {t : Tid} (inv1 : Inv1 P s) (inv2 : Inv2 s) (inv : Inv5 P s)
    (st : FStep P s t s') : Inv5 P s' := by
  have mono := @FStep.okLoaded_mono _ _ _ _ inv2 st
  constructor
  · intro t' f hf pre hp d hd
    rcases st.mem_stack hf with h | ⟨d', _, rfl⟩ | ⟨g, rest, hpc, hst, rfl, rfl⟩
    · exact mono (inv.done_prefix t' f h pre hp d hd)
    · simp [List.append_left_eq_self.1 hp.symm] at hd
    · -- the `load` that has just returned joins the executed ones
      have hg : g ∈ s.stack t' := by simp [hst]
      obtain ⟨pre0, hp0⟩ := inv1.suffix t' g hg
      cases htd : g.todo with
      | nil => exact absurd htd (inv1.unset_frame t' g rest .ok hst hpc)
      | cons a as =>
        simp only [htd, List.tail_cons] at hp hp0
        have : pre = pre0 ++ [a] := List.append_cancel_right (by rw [← hp, ← hp0]; simp)
        rcases List.mem_append.1 (this ▸ hd) with h | h
        · exact mono (inv.done_prefix t' g hg pre0 (by rw [htd]; exact hp0.symm) d h)
        · exact mono (inv.unset_ok t' g rest d hpc hst (by simp_all))
  · intro t' f rest d hp hs hd
    rcases st.frame t' with rfl | ⟨hp', hs'⟩
    · -- a load returns successfully: out of `wait` for a module loaded without error, or from its own `done`
      have tgt : ∀ d', target (s.pc t') = some d' → s.stack t' = f :: rest → d' = d := fun d' h hs =>
        Option.some.inj ((inv1.tgt_frame t' f rest d' hs h).symm.trans hd)
      cases st <;> simp only [setPc, publish, goSleep, upd_same, reduceCtorEq, PC.unset.injEq] at hp hs
      case wlockRet d' hpc hl | wake d' hpc _ hl => exact tgt d' (by rw [hpc]; rfl) hs ▸ ⟨hl, hp⟩
      case fin r g rest' hpc hst =>
        have := (inv1.lower_busy t' g f rest [] (by simp [hst, hs])).symm.trans hd
        simp [okLoaded, ← Option.some.inj this, hp]
    · exact mono (inv.unset_ok t' f rest d (hp' ▸ hp) (hs' ▸ hs) hd)
  · intro t' f rest hp hs
    rcases st.frame t' with rfl | ⟨hp', hs'⟩
    · -- a body ends without error only where it ran out of `load`s
      cases st <;> simp only [setPc, publish, goSleep, upd_same, reduceCtorEq, PC.fin.injEq] at hp hs
      case runFin g grest _ hst _ htd => rw [hst] at hs; cases hs; exact htd
      case unsetFail r g grest _ hr _ => exact absurd hp hr
    · exact inv.fin_ok t' f rest (hp' ▸ hp) (hs' ▸ hs)
  · intro m hm d hd
    cases h0 : s.loaded m with
    | true =>
      have h := inv.ok_closed m ⟨h0, (st.loaded_keep inv2 h0).1 ▸ hm.2⟩ d hd
      exact ⟨mono h.1, by rw [(st.loaded_keep inv2 h0).2, (st.loaded_keep inv2 h.1.1).2]; exact h.2⟩
    | false =>
      -- `m` has just finished without error: its body ran to the end, every `load` in it succeeded, earlier
      obtain ⟨r, f, rest, hpc, hst, rfl, hr, hft, _⟩ := st.loaded_new hm.1 h0
      rw [hm.2] at hr; subst hr
      have hf : f ∈ s.stack t := by simp [hst]
      have hd := inv.done_prefix t f hf (P.loads f.mod) (by simp [inv.fin_ok t f rest hpc hst]) d hd
      exact ⟨mono hd, by rw [hft, (st.loaded_keep inv2 hd.1).2]; exact inv.ftime_lt d hd.1⟩
  · intro m hm
    cases h0 : s.loaded m with
    | true => rw [(st.loaded_keep inv2 h0).2]; exact Nat.lt_of_lt_of_le (inv.ftime_lt m h0) st.clock_le
    | false =>
      obtain ⟨_, _, _, _, _, _, _, hft, hc⟩ := st.loaded_new hm h0
      omega
  · intro t' m h
    rcases st.frame t' with rfl | ⟨_, hs'⟩
    · rcases st.stack_cases with e | ⟨d, hpc, e⟩ | ⟨g, rest, _, hst, e⟩ | ⟨r, g, rest, _, hst, e⟩ <;>
        simp only [mods, e, List.map_cons] at h
      · exact inv.bottom t' m h
      · -- pushed on an empty stack: the goroutine's own `loadModule(nil, root)`
        rw [List.getLast?_cons] at h
        cases hl : ((s.stack t').map Frame.mod).getLast? with
        | none =>
          simp only [hl, Option.getD_none, Option.some.injEq] at h
          exact h ▸ inv1.tgt_root t' d (by simpa using hl) (by rw [hpc]; rfl)
        | some m' => exact inv.bottom t' m (by simpa [mods, hl] using h)
      · exact inv.bottom t' m (by simpa [mods, hst] using h)
      · refine inv.bottom t' m ?_
        simp only [mods, hst, List.map_cons, List.getLast?_cons, h, Option.getD_some]
    · exact inv.bottom t' m (by simpa [mods, hs'] using h)
  · intro t' r hr h
    rcases st.frame t' with rfl | ⟨hp', hs'⟩
    · have root : ∀ d, target (s.pc t') = some d → s.stack t' = [] → d = r := fun d h hs =>
        Option.some.inj ((inv1.tgt_root t' d hs h).symm.trans hr)
      cases st <;> simp only [setPc, publish, goSleep, upd_same, reduceCtorEq, false_or, exists_false, false_and] at h
      case unsetRoot x hpc hst => exact inv.root_done t' r hr (.inr ⟨⟨x, hpc⟩, hst⟩)
      case walkCyc d c hpc htop => simp [top, h.2] at htop
      case wlockRet d hpc hl | wake d hpc _ hl => exact root d (by rw [hpc]; rfl) h.2 ▸ hl
      case fin x f rest hpc hst =>
        have := (inv.bottom t' f.mod (by simp [mods, hst, h.2])).symm.trans hr
        simp [← Option.some.inj this]
    · exact st.loaded_mono (inv.root_done t' r hr (hp' ▸ hs' ▸ h))

theorem inv5_reachable {P : Project} {s : State} (h : Reachable .fixed P s) : Inv5 P s :=
  reachable_induction (I := Inv5 P) (inv5_init P)
    (fun _ _ _ hr ih st => inv5_fstep (inv1_reachable hr) (inv2_reachable hr) ih st) h

/-- every module the project can reach has an environment (its project is in the build list, …) -/
def NoBroken (P : Project) : Prop := ∀ m, Reach P m → P.broken m = false

/-- what can make a load end with the result: nothing is needed for success; the cyclic-dependency error needs a cycle of
`load` statements through a module the project reaches, the environment error a module it reaches that has none -/
def Caused (P : Project) : Res → Prop
  | .ok => True
  | .cyc => ∃ c, Reach P c ∧ Path P c c
  | .err => ∃ m, Reach P m ∧ P.broken m = true

structure Sound (P : Project) (s : State) : Prop where
  pcs : ∀ t r, (s.pc t = .unset r ∨ s.pc t = .fin r) → Caused P r
  results : ∀ m, Caused P (s.result m)

theorem sound_init (P : Project) : Sound P (init P) := by
  refine ⟨fun t r h => ?_, fun _ => trivial⟩
  rcases init_pc P t with ⟨_, h2⟩ | ⟨r', _, h2⟩ <;> simp [h2] at h

theorem sound_fstep {P : Project} {s s' : State} {t : Tid} (inv1 : Inv1 P s) (inv4 : Inv4 P s) (inv : Sound P s)
    (st : FStep P s t s') : Sound P s' := by
  constructor
  · intro t' r h
    rcases st.frame t' with rfl | ⟨hp, _⟩
    · -- a result is made by the environment check, the end of a body or the chain walk; otherwise it is handed on
      cases st <;> simp only [setPc, publish, goSleep, upd_same, reduceCtorEq, PC.unset.injEq, PC.fin.injEq, or_false,
        false_or] at h <;> subst h
      case runBroken f rest _ hst hb => exact ⟨_, inv4.reg_reach _ (inv1.frame_reg t' f (by simp [hst])), hb⟩
      case runFin => trivial
      case walkCyc d c hpc htop => exact ⟨c, verdict_cycle inv1 inv4 hpc htop⟩
      case wlockRet d _ _ | wake d _ _ _ => exact inv.results d
      case unsetFail r _ _ hpc _ _ => exact inv.pcs t' r (.inl hpc)
      case fin r _ _ hpc _ => exact inv.pcs t' r (.inr hpc)
    · exact inv.pcs t' r (hp ▸ h)
  · intro m
    cases st
    case fin r f rest hpc hst =>
      simp only [upd]; split
      · exact inv.pcs t r (.inr hpc)
      · exact inv.results m
    all_goals exact inv.results m

theorem sound_reachable {P : Project} {s : State} (h : Reachable .fixed P s) : Sound P s :=
  reachable_induction (I := Sound P) (sound_init P)
    (fun _ _ _ hr ih st => sound_fstep (inv1_reachable hr) (inv4_reachable hr) ih st) h

theorem Caused.not_err {P : Project} (hnb : NoBroken P) : ¬ Caused P .err :=
  fun ⟨m, hm, hb⟩ => by simp [hnb m hm] at hb

theorem Caused.ok {P : Project} (hac : Acyclic P) (hnb : NoBroken P) : ∀ {r : Res}, Caused P r → r = .ok
  | .ok, _ => rfl
  | .cyc, ⟨c, hc, hp⟩ => absurd hp (hac c hc)
  | .err, h => absurd h (Caused.not_err hnb)

structure InvB (P : Project) (s : State) : Prop where
  top : ∀ t f rest, s.stack t = f :: rest → P.broken f.mod = true → s.pc t = .run ∨ s.pc t = .fin .err
  lower : ∀ t g, g ∈ (s.stack t).tail → P.broken g.mod = false
  res : ∀ m, s.loaded m = true → P.broken m = true → s.result m = .err

theorem invB_init (P : Project) : InvB P (init P) := by
  constructor <;> intros <;> simp_all [init]

theorem invB_fstep {P : Project} {s s' : State} {t : Tid} (inv2 : Inv2 s) (inv : InvB P s) (st : FStep P s t s') :
    InvB P s' := by
  constructor
  · intro t' f rest hs hb
    rcases st.frame t' with rfl | ⟨hp, hs'⟩
    · -- a broken module is on top only from `load` (→ `run`) until the environment check has failed (→ `fin err`)
      rcases st.stack_cases with e | ⟨d, hpc, e⟩ | ⟨g, grest, hpc, hst, e⟩ | ⟨r, g, grest, hpc, hst, e⟩ <;> rw [e] at hs
      · -- the stack stays: the step is the environment check
        rcases inv.top t' f rest hs hb with h | h
        · cases st <;> simp_all [setPc]
        · cases st <;> simp_all
      · cases st <;> simp_all
      · cases hs
        rcases inv.top t' g _ hst hb with h | h <;> rw [hpc] at h <;> cases h
      · have := inv.lower t' f (by simp [hst, hs])
        rw [hb] at this; cases this
    · exact hp ▸ inv.top t' f rest (hs' ▸ hs) hb
  · intro t' g hg
    rcases st.frame t' with rfl | ⟨_, hs'⟩
    · rcases st.stack_cases with e | ⟨d, hpc, e⟩ | ⟨f, rest, _, hst, e⟩ | ⟨r, f, rest, _, hst, e⟩ <;> rw [e] at hg
      · exact inv.lower t' g hg
      · -- `load` pushes on a frame that is in the middle of a `load` statement, so not broken
        cases hst : s.stack t' with
        | nil => simp [hst] at hg
        | cons f rest =>
          rcases List.mem_cons.1 (hst ▸ hg) with rfl | hg
          · cases hb : P.broken g.mod with
            | false => rfl
            | true => rcases inv.top t' g rest hst hb with h | h <;> simp [hpc] at h
          · exact inv.lower t' g (by simp [hst, hg])
      · exact inv.lower t' g (by simpa [hst] using hg)
      · exact inv.lower t' g (by simpa [hst] using List.mem_of_mem_tail hg)
    · exact inv.lower t' g (hs' ▸ hg)
  · intro m hl hb
    cases h0 : s.loaded m with
    | true => rw [(st.loaded_keep inv2 h0).1]; exact inv.res m h0 hb
    | false =>
      obtain ⟨r, f, rest, hpc, hst, rfl, hr, _⟩ := st.loaded_new hl h0
      rcases inv.top t f rest hst hb with h | h <;> simp_all

theorem invB_reachable {P : Project} {s : State} (h : Reachable .fixed P s) : InvB P s :=
  reachable_induction (I := InvB P) (invB_init P)
    (fun _ _ _ hr ih st => invB_fstep (inv2_reachable hr) ih st) h

end Dawn.Loader
