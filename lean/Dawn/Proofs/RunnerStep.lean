import Dawn.Model.Runner
/-!
# Runner: the transition function as a relation with one constructor per kind of step

`TStep P s l p s'` — thread `l`, whose program counter is `p`, can step from `s` to `s'`. Proved equivalent
to the executable `stepTgt` once (`tstep_of_stepTgt`), so that every invariant proof is a `cases` with the
successor state already substituted.
-/
namespace Dawn.Runner

inductive TStep (P : Params) (s : State) (l : Label) : PC → State → Prop where
  | enter1 (hc : s.capacity ≠ 0) :
      TStep P s l .enter1
        { s with capacity := s.capacity - 1, holds := upd s.holds l true, pc := upd s.pc l (some .load) }
  | load :
      TStep P s l .load
        { s with loads := upd s.loads l (s.loads l + 1),
                 order := if P.known l then s.order else s.order ++ [l],
                 pc := upd s.pc l (some (if P.known l then .evalStart else .finish .failed .unknown)) }
  | evalStart :
      TStep P s l .evalStart
        { s with evals := upd s.evals l (s.evals l + 1), pc := upd s.pc l (some .exit1) }
  | exit1 :
      TStep P s l .exit1
        { s with capacity := s.capacity + 1, holds := upd s.holds l false,
                 pc := upd s.pc l (some (.startDeps (P.deps l))) }
  | start (d : Label) (rest : List Label) :
      TStep P s l (.startDeps (d :: rest))
        { startTarget s d with pc := upd (startTarget s d).pc l (some (.startDeps rest)) }
  | publish :
      TStep P s l (.startDeps [])
        { s with waiting := upd s.waiting l (some (P.deps l)),
                 ptime := upd s.ptime l s.clock, clock := s.clock + 1,
                 seen := upd s.seen l [], expd := upd s.expd l [],
                 pc := upd s.pc l (some (.walk (P.deps l))) }
  | found (rest : List Label) :
      TStep P s l (.walk (l :: rest)) { s with pc := upd s.pc l (some .unpubCyc) }
  | readPub (d : Label) (rest ds : List Label) (hd : d ≠ l) (hw : s.waiting d = some ds) :
      TStep P s l (.walk (d :: rest))
        { s with seen := upd s.seen l (d :: s.seen l), expd := upd s.expd l (d :: s.expd l),
                 pc := upd s.pc l (some (.walk (ds ++ rest))) }
  | readNil (d : Label) (rest : List Label) (hd : d ≠ l) (hw : s.waiting d = none) :
      TStep P s l (.walk (d :: rest))
        { s with seen := upd s.seen l (d :: s.seen l), pc := upd s.pc l (some (.walk rest)) }
  | walked :
      TStep P s l (.walk []) { s with pc := upd s.pc l (some (.waitDeps (P.deps l) [])) }
  | waited (d : Label) (rest : List Label) (hs : List Err) (hr : s.status d ≠ .running) :
      TStep P s l (.waitDeps (d :: rest) hs)
        { s with pc := upd s.pc l (some (.waitDeps rest (hs ++ [s.err d]))) }
  | unpub (hs : List Err) :
      TStep P s l (.waitDeps [] hs)
        { s with waiting := upd s.waiting l none, pc := upd s.pc l (some (.enter2 (some hs))) }
  | unpubCyc :
      TStep P s l .unpubCyc
        { s with waiting := upd s.waiting l none, pc := upd s.pc l (some (.enter2 none)) }
  | enter2 (res : Results) (hc : s.capacity ≠ 0) :
      TStep P s l (.enter2 res)
        { s with capacity := s.capacity - 1, holds := upd s.holds l true,
                 pc := upd s.pc l (some (.evalRest res)) }
  | evalRest (res : Results) :
      TStep P s l (.evalRest res)
        { s with cyc := upd s.cyc l (s.cyc l || res.isNone), order := s.order ++ [l],
                 pc := upd s.pc l (some (.finish (localOutcome res (P.bodyOk l)).1 (localOutcome res (P.bodyOk l)).2)) }
  | finish (st : Status) (e : Err) :
      TStep P s l (.finish st e)
        { s with status := upd s.status l st, err := upd s.err l e,
                 ftime := upd s.ftime l s.fclock, fclock := s.fclock + 1,
                 pc := upd s.pc l (some .exit2) }
  | exit2 :
      TStep P s l .exit2
        { s with capacity := s.capacity + 1, holds := upd s.holds l false, pc := upd s.pc l (some .wgDone) }
  | wgDone :
      TStep P s l .wgDone { s with live := s.live - 1, pc := upd s.pc l (some .done) }

theorem tstep_of_stepTgt {P : Params} {s s' : State} {l : Label} {p : PC}
    (h : stepTgt P s l p = some s') : TStep P s l p s' := by
  cases p with
  | enter1 =>
    simp only [stepTgt] at h
    split at h
    · cases h
    next hc => cases h; exact .enter1 hc
  | enter2 res =>
    simp only [stepTgt] at h
    split at h
    · cases h
    next hc => cases h; exact .enter2 res hc
  | startDeps todo => cases todo <;> cases h <;> constructor
  | walk todo =>
    cases todo with
    | nil => cases h; exact .walked
    | cons d rest =>
      simp only [stepTgt] at h
      split at h
      next hd => cases h; subst hd; exact .found rest
      next hd =>
        split at h
        next ds hw => cases h; exact .readPub d rest ds hd hw
        next hw => cases h; exact .readNil d rest hd hw
  | waitDeps todo hs =>
    cases todo with
    | nil => cases h; exact .unpub hs
    | cons d rest =>
      simp only [stepTgt] at h
      split at h
      · cases h
      next hr => cases h; exact .waited d rest hs hr
  | done => cases h
  | _ => cases h; constructor

theorem stepTgt_of_tstep {P : Params} {s s' : State} {l : Label} {p : PC}
    (h : TStep P s l p s') : stepTgt P s l p = some s' := by
  cases h <;> simp only [stepTgt, *, ↓reduceIte]

inductive MStep (P : Params) (s : State) : State → Prop where
  | start (hm : s.main = .start) : MStep P s { startTarget s P.root with main := .wait }
  | wait (hm : s.main = .wait) (hr : s.status P.root ≠ .running) :
      MStep P s { s with main := .waitAll (s.err P.root) }
  | waitAll (e : Err) (hm : s.main = .waitAll e) (hl : s.live = 0) : MStep P s { s with main := .done e }

theorem mstep_of_step {P : Params} {s s' : State} (h : step P s .main = some s') : MStep P s s' := by
  simp only [step] at h
  cases hm : s.main with
  | start => rw [hm] at h; simp only [stepMain, Option.some.injEq] at h; subst h; exact .start hm
  | wait =>
    rw [hm] at h; simp only [stepMain] at h
    split at h
    · cases h
    next hr => injection h with h; subst h; exact .wait hm hr
  | waitAll e =>
    rw [hm] at h; simp only [stepMain] at h
    split at h
    next hl => injection h with h; subst h; exact .waitAll e hm hl
    · cases h
  | done e => rw [hm] at h; simp [stepMain] at h

theorem step_cases {P : Params} {s s' : State} {t : Tid} (h : step P s t = some s') :
    (t = .main ∧ MStep P s s') ∨ (∃ l p, t = .tgt l ∧ s.pc l = some p ∧ TStep P s l p s') := by
  cases t with
  | main => exact Or.inl ⟨rfl, mstep_of_step h⟩
  | tgt l =>
    right
    simp only [step] at h
    cases hp : s.pc l with
    | none => rw [hp] at h; cases h
    | some p => rw [hp] at h; exact ⟨l, p, rfl, hp, tstep_of_stepTgt h⟩

theorem Reachable.rec_steps {P : Params} {J : State → Prop} {s : State} (h : Reachable P s) (h0 : J (Runner.init P))
    (hm : ∀ {s s'}, Reachable P s → J s → MStep P s s' → J s')
    (ht : ∀ {s s' l p}, Reachable P s → J s → s.pc l = some p → TStep P s l p s' → J s') : J s := by
  induction h with
  | init => exact h0
  | step t hr hs ih =>
    rcases step_cases hs with ⟨_, hm'⟩ | ⟨l, p, _, hp, ht'⟩
    · exact hm hr ih hm'
    · exact ht hr ih hp ht'

theorem upd_rel {α β : Type} {R : Label → α → β → Prop} {f : Label → α} {g g' : Label → β}
    {l : Label} {a : α} (h : ∀ x, R x (f x) (g x)) (hg : ∀ x, x ≠ l → g' x = g x) (hl : R l a (g' l)) (x : Label) :
    R x (upd f l a x) (g' x) := by
  by_cases e : x = l
  · subst e; rw [upd_same]; exact hl
  · rw [upd_other _ _ _ _ e, hg x e]; exact h x

theorem upd_pred {α : Type} {Q : Label → α → Prop} {f : Label → α} {l : Label} {a : α}
    (h : ∀ x, Q x (f x)) (hl : Q l a) (x : Label) : Q x (upd f l a x) :=
  upd_rel (R := fun x a (_ : Unit) => Q x a) (g := fun _ => ()) h (fun _ _ => rfl) hl x

theorem upd_rel₂ {α β : Type} {R : Label → α → β → Prop} {f : Label → α} {g : Label → β}
    {l : Label} {a : α} {b : β} (h : ∀ x, R x (f x) (g x)) (hl : R l a b) (x : Label) : R x (upd f l a x) (upd g l b x) :=
  upd_rel h (fun x hx => upd_other g l b x hx) (by rw [upd_same]; exact hl) x

theorem startTarget_cases (s : State) (d : Label) :
    (s.status d ≠ .idle ∧ startTarget s d = s) ∨
    (s.status d = .idle ∧
      startTarget s d = { s with status := upd s.status d .running, pc := upd s.pc d (some .enter1),
                                 registry := d :: s.registry, live := s.live + 1 }) := by
  unfold startTarget
  split
  next h => exact Or.inr ⟨h, rfl⟩
  next h => exact Or.inl ⟨h, rfl⟩

theorem startTarget_main (s : State) (d : Label) : (startTarget s d).main = s.main := by
  rcases startTarget_cases s d with ⟨_, e⟩ | ⟨_, e⟩ <;> rw [e]

theorem startTarget_cyc (s : State) (d : Label) : (startTarget s d).cyc = s.cyc := by
  rcases startTarget_cases s d with ⟨_, e⟩ | ⟨_, e⟩ <;> rw [e]

theorem startTarget_order (s : State) (d : Label) : (startTarget s d).order = s.order := by
  rcases startTarget_cases s d with ⟨_, e⟩ | ⟨_, e⟩ <;> rw [e]

theorem startTarget_capacity (s : State) (d : Label) : (startTarget s d).capacity = s.capacity := by
  rcases startTarget_cases s d with ⟨_, e⟩ | ⟨_, e⟩ <;> rw [e]

theorem step_tgt {P : Params} {s : State} {l : Label} {p : PC} (hp : s.pc l = some p) :
    step P s (.tgt l) = stepTgt P s l p := by
  simp only [step, hp]

theorem tstep_of_step {P : Params} {s s' : State} {l : Label} {p : PC} (hp : s.pc l = some p)
    (h : step P s (.tgt l) = some s') : TStep P s l p s' :=
  tstep_of_stepTgt (step_tgt hp ▸ h)

theorem tstep_main {P : Params} {s s' : State} {l : Label} {p : PC} (h : TStep P s l p s') : s'.main = s.main := by
  cases h with
  | start d rest => exact startTarget_main s d
  | _ => rfl

theorem TStep.ne_done {P : Params} {s s' : State} {l : Label} {p : PC} (h : TStep P s l p s') : p ≠ .done := by
  intro c; subst c; cases h

end Dawn.Runner
