import Dawn.Proofs.PickleBytes
/-! The invariant of the decoder's stack machine for C15: every reference in the decoder's state points into its heap
(`Closed`); one step keeps it, and ends in a panic that is not an error only where the host unpickler misbehaves. -/
namespace Dawn.Pickle

theorem lt_of_getElem? {α : Type} {l : List α} {i : Nat} {a : α} (h : l[i]? = some a) : i < l.length :=
  let ⟨hl, _⟩ := List.getElem_of_getElem? h; hl

def Val.closed (n : Nat) : Val → Prop
  | .ref a => a < n
  | _ => True

def Obj.closed (n : Nat) : Obj → Prop
  | .tuple xs => ∀ x ∈ xs, x.closed n
  | .list xs => ∀ x ∈ xs, x.closed n
  | .set xs => ∀ x ∈ xs, x.closed n
  | .dict kvs => ∀ p ∈ kvs, p.1.closed n ∧ p.2.closed n
  | .host _ _ a => a.closed n

def HeapClosed (h : Heap) : Prop := ∀ o ∈ h, o.closed h.length

theorem HeapClosed.get {h : Heap} (hc : HeapClosed h) {a : Nat} {o : Obj} (hg : h[a]? = some o) : o.closed h.length :=
  hc o (List.mem_of_getElem? hg)

structure Closed (ds : DecSt) : Prop where
  stack : ∀ v ∈ ds.stack, v.closed ds.heap.length
  memo : ∀ v ∈ ds.memo, v.closed ds.heap.length
  heap : ∀ o ∈ ds.heap, o.closed ds.heap.length

theorem Val.closed_mono {n m : Nat} (h : n ≤ m) {v : Val} (hv : v.closed n) : v.closed m := by
  cases v <;> simp only [Val.closed] at * ; omega

theorem Obj.closed_mono {n m : Nat} (h : n ≤ m) {o : Obj} (ho : o.closed n) : o.closed m := by
  cases o with
  | tuple xs => exact fun x hx => Val.closed_mono h (ho x hx)
  | list xs => exact fun x hx => Val.closed_mono h (ho x hx)
  | set xs => exact fun x hx => Val.closed_mono h (ho x hx)
  | dict kvs => exact fun p hp => ⟨Val.closed_mono h (ho p hp).1, Val.closed_mono h (ho p hp).2⟩
  | host m n a => exact Val.closed_mono h ho

theorem Val.closedB_iff (n : Nat) (v : Val) : v.closedB n = true ↔ v.closed n := by
  cases v <;> simp [Val.closedB, Val.closed]

theorem Obj.closedB_iff (n : Nat) (o : Obj) : o.closedB n = true ↔ o.closed n := by
  cases o <;> simp [Obj.closedB, Obj.closed, List.all_eq_true, Val.closedB_iff]

theorem hostResultOK_iff (h h' : Heap) (v : Val) :
    hostResultOK h h' v = true ↔ h.length ≤ h'.length ∧ v.closed h'.length ∧ HeapClosed h' := by
  simp [hostResultOK, HeapClosed, List.all_eq_true, Val.closedB_iff, Obj.closedB_iff, and_assoc]

theorem Closed.init : Closed {} := ⟨by simp, by simp, by simp⟩

theorem Closed.restack {ds : DecSt} (hc : Closed ds) {stk : List Val} (hs : ∀ v ∈ stk, v.closed ds.heap.length) :
    Closed { ds with stack := stk } := ⟨hs, hc.memo, hc.heap⟩

theorem HeapClosed.append {h : Heap} (hc : HeapClosed h) (o : Obj) (ho : o.closed h.length) : HeapClosed (h ++ [o]) := by
  intro x hx
  have hle : h.length ≤ (h ++ [o]).length := by simp
  simp only [List.mem_append, List.mem_singleton] at hx
  rcases hx with hx | rfl
  · exact Obj.closed_mono hle (hc x hx)
  · exact Obj.closed_mono hle ho

theorem Closed.alloc {ds : DecSt} (hc : Closed ds) {o : Obj} (ho : o.closed ds.heap.length) {rest : List Val}
    (hr : ∀ x ∈ rest, x.closed ds.heap.length) :
    Closed { ds with stack := .ref ds.heap.length :: rest, heap := ds.heap ++ [o] } := by
  have hle : ds.heap.length ≤ (ds.heap ++ [o]).length := by simp
  exact ⟨List.forall_mem_cons.mpr ⟨by simp [Val.closed], fun x hx => Val.closed_mono hle (hr x hx)⟩,
    fun x hx => Val.closed_mono hle (hc.memo x hx), HeapClosed.append hc.heap o ho⟩

theorem HeapClosed.set {h : Heap} (hc : HeapClosed h) (a : Nat) {o : Obj} (ho : o.closed h.length) :
    HeapClosed (h.set a o) := by
  intro x hx
  rw [List.length_set]
  rcases List.mem_or_eq_of_mem_set hx with hx | rfl
  · exact hc x hx
  · exact ho

theorem Closed.set {ds : DecSt} (hc : Closed ds) (a : Nat) {o : Obj} (ho : o.closed ds.heap.length) {stk : List Val}
    (hs : ∀ x ∈ stk, x.closed ds.heap.length) : Closed { ds with stack := stk, heap := ds.heap.set a o } :=
  ⟨by simpa using hs, by simpa using hc.memo, HeapClosed.set hc.heap a ho⟩

theorem splitMark_eq {st items below : List Val} (h : splitMark st = some (items, below)) :
    st = items ++ .mark :: below := by
  induction st generalizing items with
  | nil => simp [splitMark] at h
  | cons v rest ih =>
    unfold splitMark at h
    split at h
    · cases h
    · rename_i heq; cases heq; cases h; rfl
    · rename_i heq; cases heq
      split at h
      · cases h; rw [List.cons_append, ← ih ‹_›]
      · cases h

theorem splitMark_append (xs below : List Val) (h : ∀ x ∈ xs, x ≠ .mark) :
    splitMark (xs ++ .mark :: below) = some (xs, below) := by
  induction xs with
  | nil => simp [splitMark]
  | cons x xs ih =>
    obtain ⟨hx, hxs⟩ := List.forall_mem_cons.mp h
    cases x with
    | mark => exact absurd rfl hx
    | atom a => simp [splitMark, ih hxs]
    | ref a => simp [splitMark, ih hxs]
    | global i m n => simp [splitMark, ih hxs]

theorem insertEntry_all {α : Type} (h : Heap) (key : α → Val) (setVal : α → α) (e : α) (Q : α → Prop)
    (hs : ∀ x, Q x → Q (setVal x)) (he : Q e) :
    ∀ (l r : List α), (∀ x ∈ l, Q x) → insertEntry h key setVal e l = some r → ∀ x ∈ r, Q x := by
  intro l
  induction l with
  | nil =>
    intro r _ hr
    cases hr
    simpa using he
  | cons y rest ih =>
    intro r hl hr
    obtain ⟨hy, hrest⟩ := List.forall_mem_cons.mp hl
    simp only [insertEntry] at hr
    split at hr
    · cases hr
    · cases hr
      exact List.forall_mem_cons.mpr ⟨hs _ hy, hrest⟩
    · cases hi : insertEntry h key setVal e rest with
      | none => simp [hi] at hr
      | some r' =>
        simp only [hi, Option.map_some, Option.some.injEq] at hr
        subst hr
        exact List.forall_mem_cons.mpr ⟨hy, ih r' hrest hi⟩

theorem dictInsert_all (h : Heap) (Q : Val → Prop) (kvs : List (Val × Val)) (k v : Val)
    (hl : ∀ p ∈ kvs, Q p.1 ∧ Q p.2) (hk : Q k) (hv : Q v) : ∀ p ∈ dictInsert h kvs k v, Q p.1 ∧ Q p.2 := by
  unfold dictInsert
  split
  · cases hr : insertEntry h (·.1) (fun x => (x.1, v)) (k, v) kvs with
    | none => exact hl
    | some r =>
      exact insertEntry_all h (·.1) (fun x => (x.1, v)) (k, v) (fun p => Q p.1 ∧ Q p.2) (fun x hx => ⟨hx.1, hv⟩) ⟨hk, hv⟩ kvs r hl hr
  · exact hl

theorem setInsert_all (h : Heap) (Q : Val → Prop) (xs : List Val) (k : Val)
    (hl : ∀ x ∈ xs, Q x) (hk : Q k) : ∀ x ∈ setInsert h xs k, Q x := by
  unfold setInsert
  split
  · cases hr : insertEntry h id id k xs with
    | none => exact hl
    | some r => exact insertEntry_all h _ _ _ Q (fun x hx => hx) hk xs r hl hr
  · exact hl

theorem dictInsertAll_all (h : Heap) (Q : Val → Prop) (kvs : List (Val × Val)) (items : List Val)
    (hl : ∀ p ∈ kvs, Q p.1 ∧ Q p.2) (hi : ∀ x ∈ items, Q x) : ∀ p ∈ dictInsertAll h kvs items, Q p.1 ∧ Q p.2 := by
  induction kvs, items using dictInsertAll.induct h with
  | case1 kvs k v rest ih =>
    simp only [List.forall_mem_cons] at hi
    exact ih (dictInsert_all h Q kvs k v hl hi.1 hi.2.1) hi.2.2
  | case2 kvs items hne => rw [dictInsertAll.eq_2 _ _ _ hne]; exact hl

theorem setInsertAll_all (h : Heap) (Q : Val → Prop) : ∀ (items xs : List Val),
    (∀ x ∈ xs, Q x) → (∀ x ∈ items, Q x) → ∀ x ∈ setInsertAll h xs items, Q x := by
  intro items
  induction items with
  | nil => intro xs hl _; exact hl
  | cons k rest ih =>
    intro xs hl hi
    obtain ⟨hk, hrest⟩ := List.forall_mem_cons.mp hi
    exact ih _ (setInsert_all h Q xs k hl hk) hrest

def HostMisbehaves (cfg : DecCfg) : Prop :=
  ∃ f h a m n xs, cfg.host = some f ∧ HeapClosed h ∧ h[a]? = some (.tuple xs) ∧
    (f h a m n xs = .otherPanic ∨ ∃ h' v, f h a m n xs = .result h' v ∧ hostResultOK h h' v = false)

def Step.Safe (cfg : DecCfg) : Step → Prop
  | .cont ds' => Closed ds'
  | .done v ds' => Closed ds' ∧ v.closed ds'.heap.length
  | .otherPanic => HostMisbehaves cfg
  | _ => True

theorem push_safe {cfg : DecCfg} {ds : DecSt} (hc : Closed ds) {v : Val} (hv : v.closed ds.heap.length) :
    (push ds v).Safe cfg := hc.restack (List.forall_mem_cons.mpr ⟨hv, hc.stack⟩)

theorem stepOp_safe (cfg : DecCfg) {ds : DecSt} (hc : Closed ds) (o : Op) : (stepOp cfg ds o).Safe cfg := by
  -- what is on the stack, by the shape the opcode found it in
  have hcons : ∀ {v rest}, ds.stack = v :: rest → v.closed ds.heap.length ∧ ∀ x ∈ rest, x.closed ds.heap.length :=
    fun hst => List.forall_mem_cons.mp (hst ▸ hc.stack)
  have hmark : ∀ {items below}, splitMark ds.stack = some (items, below) →
      (∀ x ∈ items.reverse, x.closed ds.heap.length) ∧ ∀ x ∈ below, x.closed ds.heap.length := by
    intro items below hsp
    have := splitMark_eq hsp ▸ hc.stack
    simp only [List.forall_mem_append, List.forall_mem_cons] at this
    exact ⟨by simpa using this.1, this.2.2⟩
  have hget : ∀ {a : Nat} {o : Obj}, ds.heap[a]? = some o → o.closed ds.heap.length := HeapClosed.get hc.heap
  cases o <;> dsimp only [stepOp]
  case mark | none | newtrue | newfalse | binint1 | binint2 | binint | binfloat | shortBinunicode | binunicode |
      shortBinbytes | binbytes => exact push_safe hc trivial
  case emptyList | emptyTuple | emptyDict | emptySet => exact hc.alloc (by simp [Obj.closed]) hc.stack
  case int => split <;> first | exact push_safe hc trivial | trivial
  case binget | longBinget =>
    split
    · exact push_safe hc (hc.memo _ (List.mem_of_getElem? ‹_›))
    · trivial
  case memoize =>
    split
    · exact ⟨hc.stack, List.forall_mem_append.mpr ⟨hc.memo, by simpa using (hcons ‹_›).1⟩, hc.heap⟩
    · trivial
  case stop =>
    split
    · exact ⟨hc.restack (hcons ‹_›).2, (hcons ‹_›).1⟩
    · trivial
  case append =>
    split <;> try trivial
    rename_i v a rest hst
    obtain ⟨hv, hr⟩ := hcons hst
    split <;> try trivial
    rename_i xs hxs
    exact hc.set a (o := .list _) (List.forall_mem_append.mpr ⟨hget hxs, by simpa using hv⟩) hr
  case appends =>
    split <;> try trivial
    obtain ⟨hi, hb⟩ := hmark ‹_›
    split <;> try trivial
    rename_i xs hxs
    exact hc.set _ (o := .list _) (List.forall_mem_append.mpr ⟨hget hxs, hi⟩) hb
  case setitems =>
    split <;> try trivial
    obtain ⟨hi, hb⟩ := hmark ‹_›
    split <;> try trivial
    rename_i kvs hkvs
    split <;> try trivial
    exact hc.set _ (o := .dict _) (dictInsertAll_all ds.heap (Val.closed ds.heap.length) _ _ (hget hkvs) hi) hb
  case additems =>
    split <;> try trivial
    obtain ⟨hi, hb⟩ := hmark ‹_›
    split <;> try trivial
    rename_i xs hxs
    exact hc.set _ (o := .set _) (setInsertAll_all ds.heap (Val.closed ds.heap.length) _ _ (hget hxs) hi) hb
  case tuple1 =>
    split <;> try trivial
    obtain ⟨ha, hr⟩ := hcons ‹_›
    exact hc.alloc (o := .tuple _) (by simpa [Obj.closed] using ha) hr
  case tuple2 =>
    split <;> try trivial
    obtain ⟨hb, hr⟩ := hcons ‹_›
    obtain ⟨ha, hr⟩ := List.forall_mem_cons.mp hr
    exact hc.alloc (o := .tuple _) (by simpa [Obj.closed] using ⟨ha, hb⟩) hr
  case tuple3 =>
    split <;> try trivial
    obtain ⟨hc', hr⟩ := hcons ‹_›
    obtain ⟨hb, hr⟩ := List.forall_mem_cons.mp hr
    obtain ⟨ha, hr⟩ := List.forall_mem_cons.mp hr
    exact hc.alloc (o := .tuple _) (by simpa [Obj.closed] using ⟨ha, hb, hc'⟩) hr
  case tuple =>
    split <;> try trivial
    obtain ⟨hi, hb⟩ := hmark ‹_›
    exact hc.alloc (o := .tuple _) hi hb
  case stackGlobal =>
    split <;> try trivial
    obtain ⟨_, hr⟩ := hcons ‹_›
    exact ⟨List.forall_mem_cons.mpr ⟨trivial, (List.forall_mem_cons.mp hr).2⟩, hc.memo, hc.heap⟩
  case newobj =>
    split <;> try trivial
    rename_i a gid m n rest hst
    obtain ⟨ha, hr⟩ := hcons hst
    have hr := (List.forall_mem_cons.mp hr).2
    split <;> try trivial
    rename_i xs hxs
    split <;> try trivial
    rename_i f hf
    split <;> try trivial
    · exact hc.alloc (show Obj.closed _ (.host m n (.ref a)) from ha) hr
    · rename_i h' v hv
      split
      · rename_i hok
        obtain ⟨hle, hvc, hhc⟩ := (hostResultOK_iff _ _ _).mp hok
        exact ⟨List.forall_mem_cons.mpr ⟨hvc, fun x hx => Val.closed_mono hle (hr x hx)⟩,
          fun x hx => Val.closed_mono hle (hc.memo x hx), hhc⟩
      · exact ⟨f, ds.heap, a, m, n, xs, hf, hc.heap, hxs, Or.inr ⟨h', v, hv, (Bool.not_eq_true _).mp ‹_›⟩⟩
    · exact ⟨f, ds.heap, a, m, n, xs, hf, hc.heap, hxs, Or.inl ‹_›⟩

theorem Closed.step {cfg : DecCfg} {ds ds' : DecSt} {op : Op} (hc : Closed ds) (hs : stepOp cfg ds op = .cont ds') :
    Closed ds' := by
  have := stepOp_safe cfg hc op
  rwa [hs] at this

end Dawn.Pickle
