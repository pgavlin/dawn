import Dawn.Model.Cache
/-!
Invariant of the `cache.once` model and its preservation by every step of every thread.

A step of thread `t` replaces `pc t` and at most one other component of the state, so the invariant is kept in three
parts by what they read: the lock discipline (`Lock`: `writer`, `readers`, `rset` against who is inside which critical
section), the at-most-once bookkeeping (`Once`: `entries` against `okCalls`) and what each thread knows about the key of
its call in progress (`Local`). Each part has one lemma for the steps that leave its components alone and one for each
step that does not; `next_spec` only picks the right three for every statement of `once`.
-/
namespace Dawn.Cache

/-- the thread is inside the writer's critical section of `once` -/
def inW : PC → Bool
  | .wheld | .miss | .callok _ | .holding _ => true
  | _ => false

/-- the thread is inside the reader's critical section of `get` -/
def inR : PC → Bool
  | .rheld | .rdone _ => true
  | _ => false

variable {w : Bool} {n : Nat} {rs : List Tid} {pc : Tid → PC} {prog prog' : Tid → List Op} {t : Tid} {p q : PC}
  {e e' : Key → Option Val} {okc okc' : Key → List Val} {fc fc' : Key → Nat} {rets : List (Tid × Key × Option Val)}
  {op : Op} {rest : List Op} {k : Key} {r : Option Val}

theorem apply_upd {β} (g : PC → β) (hpc : pc t = q) (h : g p = g q) (x : Tid) : g (upd pc t p x) = g (pc x) := by
  unfold upd; split
  · subst x; rw [hpc]; exact h
  · rfl

theorem upd_of_none (hn : e k = none) (u : Option Val) (k' : Key) (v : Val) (h : e k' = some v) :
    upd e k u k' = some v := by
  rw [upd_other _ _ _ _ fun hk => by rw [hk, hn] at h; cases h]; exact h

theorem le_upd_succ (f : Nat → Nat) (i x : Nat) : f x ≤ upd f i (f i + 1) x := by
  unfold upd; split
  · subst x; omega
  · omega

/-- `rs` is the ghost `rset`: it lists the threads inside the reader's section, so that `readers` can be spoken of
without counting threads. -/
structure Lock (w : Bool) (n : Nat) (rs : List Tid) (pc : Tid → PC) : Prop where
  wflag : ∀ t, inW (pc t) = true → w = true
  wuniq : ∀ t t', inW (pc t) = true → inW (pc t') = true → t = t'
  wsome : w = true → ∃ t, inW (pc t) = true
  rmem : ∀ t, inR (pc t) = true ↔ t ∈ rs
  rnodup : rs.Nodup
  rcount : n = rs.length
  excl : w = true → rs = []

theorem Lock.move (L : Lock w n rs pc) (hpc : pc t = q) (hW : inW p = inW q) (hR : inR p = inR q) :
    Lock w n rs (upd pc t p) := by
  have eW := apply_upd inW hpc hW
  have eR := apply_upd inR hpc hR
  exact ⟨by simpa only [eW] using L.wflag, by simpa only [eW] using L.wuniq, by simpa only [eW] using L.wsome,
    by simpa only [eR] using L.rmem, L.rnodup, L.rcount, L.excl⟩

theorem Lock.rlock (L : Lock w n rs pc) (hpc : pc t = .start) (hw : w = false) :
    Lock w (n + 1) (t :: rs) (upd pc t .rheld) := by
  have eW := apply_upd (p := .rheld) inW hpc rfl
  refine ⟨by simpa only [eW] using L.wflag, by simpa only [eW] using L.wuniq, by simpa only [eW] using L.wsome,
    fun x => ?_, List.nodup_cons.2 ⟨fun h => ?_, L.rnodup⟩, congrArg (· + 1) L.rcount, fun h => ?_⟩
  · by_cases h : x = t
    · subst h; simp [inR]
    · simp [L.rmem, h]
  · have := (L.rmem t).2 h
    rw [hpc] at this; cases this
  · rw [hw] at h; cases h

theorem Lock.runlock (L : Lock w n rs pc) (hpc : pc t = .rdone r) (hW : inW p = false) (hR : inR p = false) :
    Lock w (n - 1) (rs.erase t) (upd pc t p) := by
  have eW := apply_upd inW hpc hW
  have ht : t ∈ rs := (L.rmem t).1 (by rw [hpc]; rfl)
  refine ⟨by simpa only [eW] using L.wflag, by simpa only [eW] using L.wuniq, by simpa only [eW] using L.wsome,
    fun x => ?_, L.rnodup.erase t, by rw [List.length_erase_of_mem ht, L.rcount], fun h => by rw [L.excl h]; rfl⟩
  rw [L.rnodup.mem_erase_iff]
  by_cases h : x = t
  · subst h; simp [hR]
  · simp [L.rmem, h]

theorem Lock.lock (L : Lock w n rs pc) (hpc : pc t = .wlock) (hw : w = false) (hn : n = 0) :
    Lock true n rs (upd pc t .wheld) := by
  have eR := apply_upd (p := .wheld) inR hpc rfl
  have only : ∀ x, inW (upd pc t .wheld x) = true → x = t := fun x hx => by
    by_cases h : x = t
    · exact h
    · rw [upd_other _ _ _ _ h] at hx
      have := L.wflag x hx
      rw [hw] at this; cases this
  exact ⟨fun _ _ => rfl, fun x y hx hy => (only x hx).trans (only y hy).symm, fun _ => ⟨t, by rw [upd_same]; rfl⟩,
    by simpa only [eR] using L.rmem, L.rnodup, L.rcount, fun _ => List.eq_nil_of_length_eq_zero (L.rcount ▸ hn)⟩

theorem Lock.unlock (L : Lock w n rs pc) (hpc : pc t = .holding r) : Lock false n rs (upd pc t (.retv r)) := by
  have eR := apply_upd (p := .retv r) inR hpc rfl
  have nobody : ∀ x, inW (upd pc t (.retv r) x) ≠ true := fun x hx => by
    by_cases h : x = t
    · subst h; rw [upd_same] at hx; cases hx
    · rw [upd_other _ _ _ _ h] at hx
      exact h (L.wuniq x t hx (by rw [hpc]; rfl))
  exact ⟨fun x hx => absurd hx (nobody x), fun x _ hx => absurd hx (nobody x), nofun,
    by simpa only [eR] using L.rmem, L.rnodup, L.rcount, nofun⟩

/-- `calls_ent`: the result of a successful call is in the cache or on its way there, its thread being at `callok`,
between `starlark.Call` and the store. -/
structure Once (e : Key → Option Val) (okc : Key → List Val) (pc : Tid → PC) (prog : Tid → List Op) : Prop where
  ent_calls : ∀ k v, e k = some v → okc k = [v]
  calls_ent : ∀ k v l, okc k = v :: l → l = [] ∧
      (e k = some v ∨ ∃ t op rest, prog t = op :: rest ∧ op.key = k ∧ pc t = .callok v)

theorem Once.frame (O : Once e okc pc prog) (hpc : pc t = q) (hq : ∀ v, q ≠ .callok v)
    (hprog : ∀ x, x ≠ t → prog' x = prog x) : Once e okc (upd pc t p) prog' where
  ent_calls := O.ent_calls
  calls_ent k v l hk := (O.calls_ent k v l hk).imp_right <| Or.imp_right fun ⟨x, op, rest, hx, hkey, hpc'⟩ =>
    have h : x ≠ t := fun h => hq v (by rw [← hpc, ← h, hpc'])
    ⟨x, op, rest, hprog x h ▸ hx, hkey, by rw [upd_other _ _ _ _ h]; exact hpc'⟩

theorem Once.move (O : Once e okc pc prog) (hpc : pc t = q) (hq : ∀ v, q ≠ .callok v) : Once e okc (upd pc t p) prog :=
  O.frame hpc hq fun _ _ => rfl

/-- second half of the call step: `Once.move` has taken the thread to `callok a`, `okCalls` follows -/
theorem Once.call (O : Once e okc pc prog) (hp : prog t = op :: rest) (hpc : pc t = .callok a)
    (hn : e op.key = none) (h0 : okc op.key = []) : Once e (upd okc op.key (a :: okc op.key)) pc prog where
  ent_calls k v hk := by
    rw [upd_other _ _ _ _ fun h => by rw [h, hn] at hk; cases hk]
    exact O.ent_calls k v hk
  calls_ent k v l hk := by
    by_cases h : k = op.key
    · subst h; rw [upd_same, h0] at hk; cases hk
      exact ⟨rfl, .inr ⟨t, op, rest, hp, rfl, hpc⟩⟩
    · rw [upd_other _ _ _ _ h] at hk
      exact O.calls_ent k v l hk

theorem Once.store (O : Once e okc pc prog) (hp : prog t = op :: rest) (hpc : pc t = .callok v)
    (hc : okc op.key = [v]) (he : ∀ k w, e k = some w → upd e op.key (some v) k = some w) :
    Once (upd e op.key (some v)) okc (upd pc t p) prog where
  ent_calls k w hk := by
    by_cases h : k = op.key
    · subst h; rw [upd_same] at hk; cases hk; exact hc
    · rw [upd_other _ _ _ _ h] at hk
      exact O.ent_calls k w hk
  calls_ent k w l hk := by
    refine (O.calls_ent k w l hk).imp_right fun h => ?_
    rcases h with h | ⟨x, op', rest', hx, hkey, hpcx⟩
    · exact .inl (he k w h)
    · by_cases hxt : x = t
      · subst hxt; rw [hp] at hx; rw [hpc] at hpcx; cases hx; cases hpcx; subst hkey
        exact .inl (upd_same ..)
      · exact .inr ⟨x, op', rest', hx, hkey, by rw [upd_other _ _ _ _ hxt]; exact hpcx⟩

theorem Once.no_calls (O : Once e okc pc prog) (hn : e k = none) (hc : ∀ x v, pc x ≠ .callok v) : okc k = [] := by
  cases h : okc k with
  | nil => rfl
  | cons v l =>
    rcases (O.calls_ent k v l h).2 with h | ⟨x, _, _, _, _, hx⟩
    · rw [hn] at h; cases h
    · exact absurd hx (hc x v)

/-- what the program counter of a thread records about the key `k` of its call in progress -/
def Knows (e : Key → Option Val) (okc : Key → List Val) (fc : Key → Nat) (k : Key) : PC → Prop
  | .miss => e k = none
  | .callok v => e k = none ∧ okc k = [v]
  | .rdone (some v) | .holding (some v) | .retv (some v) => e k = some v
  | .holding none | .retv none => 1 ≤ fc k
  | _ => True

/-- `hW`: absence of a key and the list of its calls are known only inside the writer's section. -/
theorem Knows.mono (h : Knows e okc fc k p) (he : ∀ k v, e k = some v → e' k = some v) (hf : ∀ k, fc k ≤ fc' k)
    (hW : inW p = true → e' = e ∧ okc' = okc) : Knows e' okc' fc' k p := by
  cases p with
  | miss | callok v => obtain ⟨rfl, rfl⟩ := hW rfl; exact h
  | rdone r | holding r | retv r =>
    cases r with
    | none => first | trivial | exact Nat.le_trans h (hf k)
    | some v => exact he k v h
  | _ => trivial

theorem Knows.read : Knows e okc fc k (.rdone (e k)) := by
  cases h : e k <;> first | trivial | exact h

structure Local (e : Key → Option Val) (okc : Key → List Val) (fc : Key → Nat) (rets : List (Tid × Key × Option Val))
    (pc : Tid → PC) (prog : Tid → List Op) : Prop where
  active : ∀ t, pc t ≠ .start → prog t ≠ []
  knows : ∀ t op rest, prog t = op :: rest → Knows e okc fc op.key (pc t)
  returned : ∀ t k r, (t, k, r) ∈ rets → Knows e okc fc k (.retv r)

theorem Local.step (D : Local e okc fc rets pc prog) (hp : prog t = op :: rest)
    (he : ∀ k v, e k = some v → e' k = some v) (hf : ∀ k, fc k ≤ fc' k)
    (hW : (e' = e ∧ okc' = okc) ∨ ∀ x, inW (pc x) = true → x = t) (hk : Knows e' okc' fc' op.key p) :
    Local e' okc' fc' rets (upd pc t p) prog where
  active x _ := by
    by_cases h : x = t
    · rw [h, hp]; exact List.cons_ne_nil _ _
    · rw [upd_other _ _ _ _ h] at *; exact D.active x ‹_›
  knows x op' rest' hx := by
    by_cases h : x = t
    · subst h; rw [hp] at hx; cases hx; rw [upd_same]; exact hk
    · rw [upd_other _ _ _ _ h]; exact (D.knows x op' rest' hx).mono he hf fun hw => hW.elim id fun alone => absurd (alone x hw) h
  returned x k r hx := (D.returned x k r hx).mono he hf nofun

theorem Local.move (D : Local e okc fc rets pc prog) (hp : prog t = op :: rest) (hk : Knows e okc fc op.key p) :
    Local e okc fc rets (upd pc t p) prog :=
  D.step hp (fun _ _ => id) (fun _ => Nat.le_refl _) (.inl ⟨rfl, rfl⟩) hk

theorem Local.ret (D : Local e okc fc rets pc prog) (hpc : pc t = .start) (hk : Knows e okc fc k (.retv r)) :
    Local e okc fc ((t, k, r) :: rets) pc (upd prog t rest) where
  active x hx := by
    rw [upd_other _ _ _ _ fun h => hx (by rw [h, hpc])]; exact D.active x hx
  knows x op rest' hx := by
    by_cases h : x = t
    · rw [h, hpc]; trivial
    · rw [upd_other _ _ _ _ h] at hx; exact D.knows x op rest' hx
  returned x k' r' hx := by
    rcases List.mem_cons.1 hx with h | h
    · cases h; exact hk
    · exact D.returned x k' r' h

structure Inv (s : State) : Prop where
  lock : Lock s.writer s.readers s.rset s.pc
  once : Once s.entries s.okCalls s.pc s.prog
  thr : Local s.entries s.okCalls s.failCalls s.rets s.pc s.prog

theorem inv_init (prog : Tid → List Op) : Inv (init prog) := by
  constructor <;> constructor <;> simp [init, inW, inR, Knows]

theorem next_spec {s s' : State} {t : Tid} (inv : Inv s) (h : next s t = some s') :
    Inv s' ∧ ∀ k v, s.entries k = some v → s'.entries k = some v := by
  obtain ⟨L, O, D⟩ := inv
  unfold next at h
  split at h
  · cases h
  rename_i op rest hp
  have hk := D.knows t op rest hp
  have alone : inW (s.pc t) = true → ∀ x, inW (s.pc x) = true → x = t := fun ht x hx => L.wuniq x t hx ht
  split at h <;> rename_i hpc <;> rw [hpc] at hk alone
  · split at h <;> cases h
    exact ⟨⟨L.rlock hpc (Bool.eq_false_iff.2 ‹_›), O.move hpc nofun, D.move hp trivial⟩, fun _ _ => id⟩
  · cases h
    exact ⟨⟨L.move hpc rfl rfl, O.move hpc nofun, D.move hp .read⟩, fun _ _ => id⟩
  · cases h
    -- `afterGet r` computes once `r` is known: hit or miss on the fast path
    rename_i r
    cases r <;> exact ⟨⟨L.runlock hpc rfl rfl, O.move hpc nofun, D.move hp hk⟩, fun _ _ => id⟩
  · split at h <;> cases h
    rename_i hw
    simp only [Bool.or_eq_true, bne_iff_ne, ne_eq, not_or, Bool.not_eq_true, Decidable.not_not] at hw
    exact ⟨⟨L.lock hpc hw.1 hw.2, O.move hpc nofun, D.move hp trivial⟩, fun _ _ => id⟩
  · cases h
    -- likewise `afterRecheck`
    cases he : s.entries op.key <;> exact ⟨⟨L.move hpc rfl rfl, O.move hpc nofun, D.move hp he⟩, fun _ _ => id⟩
  · have h0 := O.no_calls hk fun x v hx => by cases alone rfl x (by rw [hx]; rfl); rw [hpc] at hx; cases hx
    split at h <;> cases h
    · exact ⟨⟨L.move hpc rfl rfl, (O.move hpc nofun).call hp (upd_same ..) hk h0,
        D.step hp (fun _ _ => id) (fun _ => Nat.le_refl _) (.inr (alone rfl)) ⟨hk, by simp only [upd_same, h0]⟩⟩,
        fun _ _ => id⟩
    · exact ⟨⟨L.move hpc rfl rfl, O.move hpc nofun,
        D.step hp (fun _ _ => id) (le_upd_succ _ _) (.inl ⟨rfl, rfl⟩) (by show 1 ≤ upd _ _ _ _; rw [upd_same]; omega)⟩,
        fun _ _ => id⟩
  · cases h
    rename_i v
    have he := upd_of_none hk.1 (some v)
    exact ⟨⟨L.move hpc rfl rfl, O.store hp hpc hk.2 he,
      D.step hp he (fun _ => Nat.le_refl _) (.inr (alone rfl)) (upd_same ..)⟩, he⟩
  · cases h
    rename_i r
    cases r <;> exact ⟨⟨L.unlock hpc, O.move hpc nofun, D.move hp hk⟩, fun _ _ => id⟩
  · cases h
    exact ⟨⟨L.move hpc rfl rfl, O.frame hpc nofun fun x hx => upd_other _ _ _ _ hx,
      (D.move (p := .start) hp trivial).ret (upd_same ..) hk⟩, fun _ _ => id⟩

/-- every step of every thread preserves the invariant -/
theorem inv_next {s s' : State} {t : Tid} (inv : Inv s) (h : next s t = some s') : Inv s' :=
  (next_spec inv h).1

theorem inv_steps {s s' : State} (inv : Inv s) (h : Steps s s') : Inv s' := by
  induction h with
  | refl => exact inv
  | tail _ st ih => obtain ⟨t, ht⟩ := st; exact inv_next ih ht

theorem inv_reachable {s : State} (h : Reachable s) : Inv s := by
  obtain ⟨prog, hs⟩ := h
  exact inv_steps (inv_init prog) hs

theorem Steps.head {s s1 s' : State} (st : Step s s1) (h : Steps s1 s') : Steps s s' := by
  induction h with
  | refl => exact .tail (.refl _) st
  | tail _ st' ih => exact .tail ih st'

theorem steps_of_run {s s' : State} {sched : List Tid} (h : run s sched = some s') : Steps s s' := by
  induction sched generalizing s with
  | nil => cases h; exact .refl _
  | cons t ts ih =>
    unfold run at h
    split at h
    · exact .head ⟨t, ‹_›⟩ (ih h)
    · cases h

/-- the only statements at which a thread with a call in progress can block are the two lock acquisitions -/
theorem next_enabled {s : State} {t : Tid} (hp : s.prog t ≠ []) (hr : s.pc t = .start → s.writer = false)
    (hw : s.pc t = .wlock → s.writer = false ∧ s.readers = 0) : ∃ s', next s t = some s' := by
  cases hpr : s.prog t with
  | nil => exact absurd hpr hp
  | cons op rest =>
    unfold next
    cases hpc : s.pc t <;> simp only [hpr]
    case start => exact ⟨_, if_neg (by simp [hr hpc])⟩
    case wlock => exact ⟨_, if_neg (by simp [hw hpc])⟩
    case miss => cases op.out <;> exact ⟨_, rfl⟩
    all_goals exact ⟨_, rfl⟩

theorem exists_of_run {P : State → Prop} [DecidablePred P] {prog : Tid → List Op} {sched : List Tid}
    (h : (run (init prog) sched).any (fun s => decide (P s)) = true) : ∃ s, Reachable s ∧ P s := by
  cases hr : run (init prog) sched with
  | none => simp [hr] at h
  | some s => exact ⟨s, ⟨prog, steps_of_run hr⟩, by simpa [hr] using h⟩

end Dawn.Cache
