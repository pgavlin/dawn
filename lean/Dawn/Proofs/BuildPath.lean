import Dawn.Proofs.LabelTip
/-! The two encodings of labels in the persisted state are reversible. `targetInfoPath` is injective on the labels a
project can hold (C14): `url.PathEscape` has a left inverse, and `pkg + "/" + name` determines `pkg` and `name` when the
name contains no `/`. The keys of the persisted dependencies map (`escapeKey`, D27 repair, C02) are read back unchanged. -/
namespace Dawn.Build

def hexVal (c : UInt8) : UInt8 := if c < 58 then c - 48 else c - 55

/-- inverse of `pathEscape` on its image -/
def unescape : List UInt8 → List UInt8
  | [] => []
  | [c] => [c]
  | [c, a] => c :: unescape [a]
  | c :: a :: b :: rest => if c == 37 then (hexVal a <<< 4 ||| hexVal b) :: unescape rest else c :: unescape (a :: b :: rest)

theorem unescape_cons_ne (c : UInt8) (rest : List UInt8) (h : (c == 37) = false) : unescape (c :: rest) = c :: unescape rest := by
  match rest with
  | [] => simp [unescape]
  | [a] => simp [unescape]
  | a :: b :: r => simp [unescape, h]

/-- the two hex digits of a byte give the byte back: all 256 bytes -/
theorem nibbles_fin : ∀ n : Fin 256,
    (hexVal (upperHex ((UInt8.ofNat n.val) >>> 4)) <<< 4 ||| hexVal (upperHex ((UInt8.ofNat n.val) &&& 15))) = UInt8.ofNat n.val := by
  decide +kernel

theorem nibbles (c : UInt8) : (hexVal (upperHex (c >>> 4)) <<< 4 ||| hexVal (upperHex (c &&& 15))) = c := by
  simpa using nibbles_fin ⟨c.toNat, c.toNat_lt⟩

theorem unescape_pathEscape (s : List UInt8) : unescape (pathEscape s) = s := by
  induction s with
  | nil => rfl
  | cons c cs ih =>
    unfold pathEscape
    split
    · simp [unescape, nibbles, ih]
    · rename_i h
      -- `%` itself is escaped, so an unescaped byte is not the escape character
      have hc : (c == 37) = false := by
        cases hh : c == 37 with
        | false => rfl
        | true => rw [eq_of_beq hh] at h; exact absurd (by decide) h
      rw [unescape_cons_ne _ _ hc, ih]

theorem pathEscape_injective {a b : List UInt8} (h : pathEscape a = pathEscape b) : a = b := by
  have := congrArg unescape h
  rwa [unescape_pathEscape, unescape_pathEscape] at this

/-- the labels a project holds records for: kind `""` or a kind that is not spelled `target`, a non-empty name without `/` -/
structure Storable (l : LabelS) : Prop where
  kind : l.kind ≠ kindTarget
  name : l.name ≠ []
  noSlash : (47 : UInt8) ∉ l.name

theorem targetInfoPath_injective {l₁ l₂ : LabelS} (h₁ : Storable l₁) (h₂ : Storable l₂)
    (h : targetInfoPath l₁ = targetInfoPath l₂) : l₁ = l₂ := by
  -- the kind directory and the file name are read back: a kind is spelled `target` only when it was empty
  have kind : ∀ {l}, Storable l → l.kind = if (targetInfoPath l).1 = kindTarget ++ pluralS then [] else (targetInfoPath l).1.dropLast := by
    intro l hl
    unfold targetInfoPath
    by_cases e : l.kind = []
    · simp [e]
    · simp [e, hl.kind, pluralS]
  have file : ∀ {l}, Storable l → (targetInfoPath l).2 = pathEscape (l.pkg ++ 47 :: l.name) := by
    intro l hl
    simp [targetInfoPath, hl.name, slash]
  have hf : pathEscape (l₁.pkg ++ 47 :: l₁.name) = pathEscape (l₂.pkg ++ 47 :: l₂.name) := by rw [← file h₁, ← file h₂, h]
  -- `pkg ++ "/" ++ name` determines both when the name has no `/`
  obtain ⟨hp, hn⟩ := Label.append_sep_inj h₁.noSlash h₂.noSlash (pathEscape_injective hf)
  have hk : l₁.kind = l₂.kind := by rw [kind h₁, kind h₂, h]
  cases l₁; cases l₂
  simp only at hp hn hk
  rw [hp, hn, hk]

/-! ## the keys of the persisted dependencies map survive JSON (D27 repair) -/

theorem unescapeKey_ch (c : Nat) (hc : c ≠ 0xFFFD) (e : List Nat) : unescapeKey (c :: e) = .ch c :: unescapeKey e := by
  match e with
  | [] => simp [unescapeKey, hc]
  | [d] => simp [unescapeKey, hc]
  | a :: b :: r => simp [unescapeKey, hc]

theorem hexValLower_hexDigitLower : ∀ n : Fin 16, hexValLower (hexDigitLower n.val) = some n.val ∧ hexDigitLower n.val ≠ 45 := by decide

/-- `unescapeLabel (escapeLabel s) = s` for every well-formed scan `s` of a label (a genuine U+FFFD is `.repl`, never
`.ch 0xFFFD`): the escaping is reversible, so two labels never share a key -/
theorem unescapeKey_escapeKey (s : List KeyItem) (h : ∀ c, KeyItem.ch c ∈ s → c ≠ 0xFFFD) : unescapeKey (escapeKey s) = s := by
  induction s with
  | nil => rfl
  | cons it rest ih =>
    have ih' := ih (fun c hc => h c (List.mem_cons_of_mem _ hc))
    cases it with
    | ch c =>
      simp only [escapeKey]
      rw [unescapeKey_ch c (h c List.mem_cons_self), ih']
    | repl =>
      simp only [escapeKey, unescapeKey]
      simp [ih']
    | raw b =>
      have hb := b.toNat_lt
      obtain ⟨v1, n1⟩ := hexValLower_hexDigitLower ⟨b.toNat / 16, by omega⟩
      obtain ⟨v2, _⟩ := hexValLower_hexDigitLower ⟨b.toNat % 16, Nat.mod_lt _ (by decide)⟩
      simp only at v1 v2 n1
      simp only [escapeKey, unescapeKey, n1, false_and, if_false, if_true, v1, v2, ih', Nat.div_add_mod', UInt8.ofNat_toNat]

theorem escapeKey_injective {s t : List KeyItem} (hs : ∀ c, KeyItem.ch c ∈ s → c ≠ 0xFFFD) (ht : ∀ c, KeyItem.ch c ∈ t → c ≠ 0xFFFD)
    (h : escapeKey s = escapeKey t) : s = t := by
  have := congrArg unescapeKey h
  rwa [unescapeKey_escapeKey s hs, unescapeKey_escapeKey t ht] at this

end Dawn.Build
