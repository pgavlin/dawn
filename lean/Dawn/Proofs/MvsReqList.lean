import Dawn.Proofs.MvsSpec
/-!
# `mvs.ReqList` returns requirements that reach the whole build list

`reqList` (the stack machine for Go's two `walk`s) returns a sub-list `min` of the build list such that every entry
of the build list is reachable from `min` through requirement edges that never leave through the main module.
This is what makes `Tidy`, and the `ReqList` step after `Upgrade` / `UpgradeAll` / `Downgrade`, preserve the
build list (Dawn/Proofs/MvsEdit.lean).
-/
namespace Dawn.Mvs

theorem postorder_pop (rq : Reqs) (f : Nat) (m : Mod) (stk : List Frame) (cache : List (Mod × List Mod)) (post : List Mod) :
    postorder rq (f + 1) (⟨m, []⟩ :: stk) cache post = postorder rq f stk cache (m :: post) := rfl

theorem postorder_child (rq : Reqs) (f : Nat) (m c : Mod) (cs : List Mod) (stk : List Frame) (cache : List (Mod × List Mod))
    (post : List Mod) :
    postorder rq (f + 1) (⟨m, c :: cs⟩ :: stk) cache post =
      if cache.any (·.1 = c) then postorder rq f (⟨m, cs⟩ :: stk) cache post
      else match rq.required c with
        | .none => .error .other
        | some req => postorder rq f (⟨c, req⟩ :: ⟨m, cs⟩ :: stk) ((c, req) :: cache) post := rfl

theorem markHave_cons (cache : List (Mod × List Mod)) (f : Nat) (m : Mod) (todo hv : List Mod) :
    markHave cache (f + 1) (m :: todo) hv =
      if m ∈ hv then markHave cache f todo hv else markHave cache f (cached cache m ++ todo) (m :: hv) := rfl

theorem selectMin_cons (fuel : Nat) (cache : List (Mod × List Mod)) (maxv : Sel) (m : Mod) (rest hv min : List Mod) :
    selectMin fuel cache maxv (m :: rest) hv min =
      if (maxv.lookup m.path).getD .root ≠ m.ver then selectMin fuel cache maxv rest hv min
      else if m ∈ hv then selectMin fuel cache maxv rest hv min
      else match markHave cache fuel [m] hv with
        | .none => .none
        | some hv' => selectMin fuel cache maxv rest hv' (min ++ [m]) := rfl

theorem not_cached_of_cons {cache : List (Mod × List Mod)} {x : Mod × List Mod} {a : Mod}
    (h : ¬ ∃ y ∈ x :: cache, y.1 = a) : ¬ ∃ y ∈ cache, y.1 = a :=
  fun h' => h'.elim fun y hy => h ⟨y, List.mem_cons_of_mem _ hy.1, hy.2⟩


/-- what a run of the first walk from stack `stk`, cache `cache` and postorder `post` leaves behind as `cache'` and `post'` -/
structure PostSpec (rq : Reqs) (stk : List Frame) (cache : List (Mod × List Mod)) (post : List Mod)
    (cache' : List (Mod × List Mod)) (post' : List Mod) : Prop where
  cache_mono : ∀ x ∈ cache, x ∈ cache'
  cache_sound : ∀ x ∈ cache', x ∈ cache ∨ rq.required x.1 = some x.2
  keys_new : ∀ x ∈ cache', x ∈ cache ∨ ¬ ∃ y ∈ cache, y.1 = x.1
  rest_cached : ∀ fr ∈ stk, ∀ c ∈ fr.rest, ∃ x ∈ cache', x.1 = c
  stk_in_post : ∀ fr ∈ stk, fr.node ∈ post'
  new_in_post : ∀ x ∈ cache', x ∈ cache ∨ x.1 ∈ post'
  post_mono : ∀ m ∈ post, m ∈ post'
  /-- every listed node satisfies whatever holds of the starting stack and is preserved along requirement edges -/
  prov : ∀ P : Mod → Prop, (∀ fr ∈ stk, P fr.node ∧ ∀ c ∈ fr.rest, P c) → (∀ m ∈ post, P m) →
    (∀ a r b, P a → (¬ ∃ y ∈ cache, y.1 = a) → rq.required a = some r → b ∈ r → P b) → ∀ m ∈ post', P m

theorem PostSpec.done (rq : Reqs) (cache : List (Mod × List Mod)) (post : List Mod) : PostSpec rq [] cache post cache post where
  cache_mono _ h := h
  cache_sound _ h := Or.inl h
  keys_new _ h := Or.inl h
  rest_cached := List.forall_mem_nil _
  stk_in_post := List.forall_mem_nil _
  new_in_post _ h := Or.inl h
  post_mono _ h := h
  prov _ _ hp _ := hp

theorem postorder_spec (rq : Reqs) : ∀ (f : Nat) (stk : List Frame) (cache : List (Mod × List Mod)) (post : List Mod)
    (cache' : List (Mod × List Mod)) (post' : List Mod),
    postorder rq f stk cache post = .ok (cache', post') → PostSpec rq stk cache post cache' post' := by
  intro f
  induction f with
  | zero =>
    intro stk cache post cache' post' h
    cases stk with
    | nil => cases h; exact PostSpec.done rq _ _
    | cons fr stk => cases h
  | succ f ih =>
    intro stk cache post cache' post' h
    cases stk with
    | nil => cases h; exact PostSpec.done rq _ _
    | cons fr stk =>
      obtain ⟨m, rest⟩ := fr
      cases rest with
      | nil =>
        -- the frame of `m` is finished: `m` is listed
        rw [postorder_pop] at h
        have s := ih stk cache (m :: post) cache' post' h
        obtain ⟨hm, hpost⟩ := List.forall_mem_cons.mp s.post_mono
        exact { s with
          rest_cached := List.forall_mem_cons.mpr ⟨List.forall_mem_nil _, s.rest_cached⟩
          stk_in_post := List.forall_mem_cons.mpr ⟨hm, s.stk_in_post⟩
          post_mono := hpost
          prov := fun P hstk hp hcl =>
            have h := List.forall_mem_cons.mp hstk
            s.prov P h.2 (List.forall_mem_cons.mpr ⟨h.1.1, hp⟩) hcl }
      | cons c cs =>
        rw [postorder_child] at h
        by_cases hc : cache.any (·.1 = c) = true
        · -- `c` is cached already
          rw [if_pos hc] at h
          obtain ⟨y, hy, hy1⟩ := (any_fst_iff cache c).mp hc
          have s := ih (⟨m, cs⟩ :: stk) cache post cache' post' h
          obtain ⟨hcs, hstk'⟩ := List.forall_mem_cons.mp s.rest_cached
          exact { s with
            rest_cached := List.forall_mem_cons.mpr ⟨List.forall_mem_cons.mpr ⟨⟨y, s.cache_mono y hy, hy1⟩, hcs⟩, hstk'⟩
            stk_in_post := List.forall_mem_cons.mpr (List.forall_mem_cons.mp s.stk_in_post)
            prov := fun P hstk hp hcl =>
              have h := List.forall_mem_cons.mp hstk
              s.prov P (List.forall_mem_cons.mpr ⟨⟨h.1.1, (List.forall_mem_cons.mp h.1.2).2⟩, h.2⟩) hp hcl }
        · -- `c` is entered: cached now, listed when its frame is finished
          rw [if_neg hc] at h
          have hc' : ¬ ∃ y ∈ cache, y.1 = c := fun hex => hc ((any_fst_iff cache c).mpr hex)
          cases hreq : rq.required c with
          | none => rw [hreq] at h; cases h
          | some req =>
            rw [hreq] at h
            have s := ih (⟨c, req⟩ :: ⟨m, cs⟩ :: stk) ((c, req) :: cache) post cache' post' h
            obtain ⟨_, hcs, hstk'⟩ := List.forall_mem_cons.mp s.rest_cached |>.imp id List.forall_mem_cons.mp
            obtain ⟨hcp, hmp, hstkp⟩ := List.forall_mem_cons.mp s.stk_in_post |>.imp id List.forall_mem_cons.mp
            have hcm := s.cache_mono _ List.mem_cons_self
            -- an entry of the final cache is old, or the new one, or newer still
            have old : ∀ {Q : Mod × List Mod → Prop}, Q (c, req) → ∀ x, (x ∈ (c, req) :: cache ∨ Q x) → x ∈ cache ∨ Q x :=
              fun hq x h => h.elim (fun h => (List.mem_cons.mp h).elim (fun e => Or.inr (e ▸ hq)) Or.inl) Or.inr
            exact {
              cache_mono := fun x hx => s.cache_mono x (List.mem_cons_of_mem _ hx)
              cache_sound := fun x hx => old (Q := fun x => rq.required x.1 = some x.2) hreq x (s.cache_sound x hx)
              keys_new := fun x hx =>
                old (Q := fun x => ¬ ∃ y ∈ cache, y.1 = x.1) hc' x ((s.keys_new x hx).imp id not_cached_of_cons)
              rest_cached := List.forall_mem_cons.mpr ⟨List.forall_mem_cons.mpr ⟨⟨_, hcm, rfl⟩, hcs⟩, hstk'⟩
              stk_in_post := List.forall_mem_cons.mpr ⟨hmp, hstkp⟩
              new_in_post := fun x hx => old (Q := fun x => x.1 ∈ post') hcp x (s.new_in_post x hx)
              post_mono := s.post_mono
              prov := fun P hstk hp hcl =>
                have h := List.forall_mem_cons.mp hstk
                have hP := List.forall_mem_cons.mp h.1.2
                s.prov P (List.forall_mem_cons.mpr ⟨⟨hP.1, fun x hx => hcl c req x hP.1 hc' hreq hx⟩,
                  List.forall_mem_cons.mpr ⟨⟨h.1.1, hP.2⟩, h.2⟩⟩) hp
                  (fun a r b ha hna => hcl a r b ha (not_cached_of_cons hna)) }

/-- reachable from `s` through cached requirement lists -/
inductive CReach (cache : List (Mod × List Mod)) (s : Mod) : Mod → Prop where
  | refl : CReach cache s s
  | step (a b : Mod) : CReach cache s a → b ∈ cached cache a → CReach cache s b

theorem markHave_spec (cache : List (Mod × List Mod)) : ∀ (f : Nat) (todo hv hv' : List Mod),
    markHave cache f todo hv = some hv' →
      (∀ x ∈ hv, x ∈ hv') ∧ (∀ x ∈ todo, x ∈ hv') ∧
      ∀ S : Mod → Prop, (∀ x ∈ todo, S x) → (∀ a b, S a → b ∈ cached cache a → S b) → ∀ x ∈ hv', x ∈ hv ∨ S x := by
  intro f
  induction f with
  | zero =>
    intro todo hv hv' h
    cases todo with
    | nil => cases h; exact ⟨fun _ h => h, List.forall_mem_nil _, fun _ _ _ _ hx => Or.inl hx⟩
    | cons m t => cases h
  | succ f ih =>
    intro todo hv hv' h
    cases todo with
    | nil => cases h; exact ⟨fun _ h => h, List.forall_mem_nil _, fun _ _ _ _ hx => Or.inl hx⟩
    | cons m t =>
      rw [markHave_cons] at h
      split at h
      · rename_i hm
        obtain ⟨a, b, c⟩ := ih t hv hv' h
        exact ⟨a, List.forall_mem_cons.mpr ⟨a m hm, b⟩, fun S hS => c S (List.forall_mem_cons.mp hS).2⟩
      · obtain ⟨a, b, c⟩ := ih (cached cache m ++ t) (m :: hv) hv' h
        obtain ⟨hm, a⟩ := List.forall_mem_cons.mp a
        refine ⟨a, List.forall_mem_cons.mpr ⟨hm, (List.forall_mem_append.mp b).2⟩, fun S hS hcl x hx => ?_⟩
        obtain ⟨hSm, hSt⟩ := List.forall_mem_cons.mp hS
        exact (c S (List.forall_mem_append.mpr ⟨fun y => hcl m y hSm, hSt⟩) hcl x hx).elim
          (fun h => (List.mem_cons.mp h).elim (fun e => Or.inr (e ▸ hSm)) Or.inl) Or.inr

/-- the third walk, from marks `hv` and picks `min`: marks and picks only grow; a new pick is an entry of `l` at the
list's version; every such entry of `l` ends up marked; and whatever is marked newly is reached from a pick through
cached requirements -/
theorem selectMin_spec (fuel : Nat) (cache : List (Mod × List Mod)) (maxv : Sel) : ∀ (l hv min min' : List Mod),
    selectMin fuel cache maxv l hv min = some min' →
      ∃ hv' : List Mod, (∀ x ∈ hv, x ∈ hv') ∧ (∀ x ∈ min, x ∈ min') ∧
        (∀ x ∈ min', x ∈ min ∨ (x ∈ l ∧ (maxv.lookup x.path).getD .root = x.ver)) ∧
        (∀ m ∈ l, (maxv.lookup m.path).getD .root = m.ver → m ∈ hv') ∧
        (∀ x ∈ hv', x ∈ hv ∨ ∃ s ∈ min', CReach cache s x) := by
  intro l
  induction l with
  | nil =>
    intro hv min min' h
    cases h
    exact ⟨hv, fun _ h => h, fun _ h => h, fun _ h => Or.inl h, List.forall_mem_nil _, fun _ h => Or.inl h⟩
  | cons m rest ih =>
    intro hv min min' h
    rw [selectMin_cons] at h
    by_cases hpass : (maxv.lookup m.path).getD .root = m.ver → m ∈ hv
    · -- passed over: its version is not the list's, or it is marked already
      have h : selectMin fuel cache maxv rest hv min = some min' := by
        by_cases hne : (maxv.lookup m.path).getD .root ≠ m.ver
        · rwa [if_pos hne] at h
        · rwa [if_neg hne, if_pos (hpass (Decidable.of_not_not hne))] at h
      obtain ⟨hv', a, b, c, d, e⟩ := ih hv min min' h
      exact ⟨hv', a, b, fun x hx => (c x hx).imp id (.imp_left (List.mem_cons_of_mem _)),
        List.forall_mem_cons.mpr ⟨fun hv => a m (hpass hv), d⟩, e⟩
    · -- picked, and everything it reaches marked
      obtain ⟨heq, hin⟩ := Decidable.not_imp_iff_and_not.mp hpass
      rw [if_neg (not_not_intro heq), if_neg hin] at h
      cases hmark : markHave cache fuel [m] hv with
      | none => rw [hmark] at h; cases h
      | some hv1 =>
        rw [hmark] at h
        obtain ⟨m1, m2, m3⟩ := markHave_spec cache fuel [m] hv hv1 hmark
        obtain ⟨hv', a, b, c, d, e⟩ := ih hv1 (min ++ [m]) min' h
        obtain ⟨b, hm⟩ := List.forall_mem_append.mp b
        have hm := List.forall_mem_singleton.mp hm
        refine ⟨hv', fun x hx => a x (m1 x hx), b, fun x hx => ?_,
          List.forall_mem_cons.mpr ⟨fun _ => a m (m2 m List.mem_cons_self), d⟩, fun x hx => ?_⟩
        · rcases c x hx with h1 | ⟨h1, h2⟩
          · rcases List.mem_append.mp h1 with h3 | h3
            · exact Or.inl h3
            · cases List.mem_singleton.mp h3; exact Or.inr ⟨List.mem_cons_self, heq⟩
          · exact Or.inr ⟨List.mem_cons_of_mem _ h1, h2⟩
        · refine (e x hx).elim (fun h1 => ?_) Or.inr
          exact (m3 (CReach cache m) (List.forall_mem_singleton.mpr CReach.refl) CReach.step x h1).imp id
            fun h2 => ⟨m, hm, h2⟩

theorem lookup_foldl_setSel_not_mem (p : String) : ∀ (list : List Mod) (s : Sel), p ∉ list.map (·.path) →
    (list.foldl (fun s m => setSel s m.path m.ver) s).lookup p = s.lookup p := by
  intro list
  induction list with
  | nil => intro s _; rfl
  | cons m rest ih =>
    intro s hp
    simp only [List.map_cons, List.mem_cons, not_or] at hp
    simp only [List.foldl]
    rw [ih _ hp.2, lookup_setSel, if_neg hp.1]

theorem lookup_foldl_setSel_mem (p : String) (v : Ver) : ∀ (list : List Mod) (s : Sel), (list.map (·.path)).Nodup →
    (⟨p, v⟩ : Mod) ∈ list → (list.foldl (fun s m => setSel s m.path m.ver) s).lookup p = some v := by
  intro list
  induction list with
  | nil => intro s _ h; cases h
  | cons m rest ih =>
    intro s hnd hm
    simp only [List.map_cons, List.nodup_cons] at hnd
    simp only [List.foldl]
    rcases List.mem_cons.mp hm with rfl | h1
    · rw [lookup_foldl_setSel_not_mem _ rest _ hnd.1, lookup_setSel, if_pos rfl]
    · exact ih _ hnd.2 h1

theorem lookup_listMap (list : List Mod) (hnd : (list.map (·.path)).Nodup) (m : Mod) (hm : m ∈ list) :
    ((listMap list).lookup m.path).getD .root = m.ver := by
  unfold listMap
  rw [lookup_foldl_setSel_mem m.path m.ver list [] hnd hm]
  rfl

theorem lookup_listMap_some (list : List Mod) (hnd : (list.map (·.path)).Nodup) (p : String) (v : Ver) :
    (listMap list).lookup p = some v ↔ (⟨p, v⟩ : Mod) ∈ list := by
  unfold listMap
  refine ⟨fun h => ?_, lookup_foldl_setSel_mem p v list [] hnd⟩
  by_cases hp : p ∈ list.map (·.path)
  · obtain ⟨m, hm, rfl⟩ := List.mem_map.mp hp
    cases (lookup_foldl_setSel_mem m.path m.ver list [] hnd hm).symm.trans h
    exact hm
  · cases (lookup_foldl_setSel_not_mem p list [] hp).symm.trans h

/-- reachable from `s` through requirements, never leaving through the main module -/
inductive RReach (rq : Reqs) (main : Mod) (s : Mod) : Mod → Prop where
  | refl : RReach rq main s s
  | step (a b : Mod) (r : List Mod) : RReach rq main s a → a ≠ main → rq.required a = some r → b ∈ r → RReach rq main s b

theorem reqList_ok {fuel : Nat} {rq : Reqs} {main : Mod} {list out : List Mod} (h : reqList fuel rq main list = .ok out) :
    ∃ cache post min, postorder rq fuel [⟨main, list⟩] [(main, [])] [] = .ok (cache, post) ∧
      selectMin fuel cache (listMap list) (post.filter (· ≠ main)) [] [] = some min ∧ out = sortByPath min := by
  unfold reqList at h
  cases hp : postorder rq fuel [⟨main, list⟩] [(main, [])] [] with
  | error e => rw [hp] at h; cases h
  | ok r =>
    obtain ⟨cache, post⟩ := r
    rw [hp] at h; dsimp only at h
    cases hm : selectMin fuel cache (listMap list) (post.filter (· ≠ main)) [] [] with
    | none => rw [hm] at h; cases h
    | some min => rw [hm] at h; cases h; exact ⟨cache, post, min, rfl, hm, rfl⟩

theorem cached_cases {rq : Reqs} {main : Mod} {list : List Mod} {cache : List (Mod × List Mod)} {post : List Mod}
    (ps : PostSpec rq [⟨main, list⟩] [(main, [])] [] cache post) (n : Mod) :
    cached cache n = [] ∨ (n ≠ main ∧ rq.required n = some (cached cache n)) := by
  unfold cached
  cases hl : cache.lookup n with
  | none => exact Or.inl rfl
  | some r =>
    have hmem := lookup_mem cache n r hl
    by_cases hn : n = main
    · -- the main module keeps the empty entry it started with
      rcases ps.keys_new _ hmem with h | h
      · cases List.mem_singleton.mp h; exact Or.inl rfl
      · exact absurd ⟨(main, []), List.mem_cons_self, hn.symm⟩ h
    · rcases ps.cache_sound _ hmem with h | h
      · cases List.mem_singleton.mp h; exact absurd rfl hn
      · exact Or.inr ⟨hn, h⟩

theorem rreach_of_creach {rq : Reqs} {main : Mod} {list : List Mod} {cache : List (Mod × List Mod)} {post : List Mod}
    (ps : PostSpec rq [⟨main, list⟩] [(main, [])] [] cache post) {s x : Mod} (h : CReach cache s x) :
    RReach rq main s x := by
  induction h with
  | refl => exact RReach.refl
  | step a b _ hb ih =>
    rcases cached_cases ps a with h | h
    · rw [h] at hb; cases hb
    · exact RReach.step a b _ ih h.1 h.2 hb

/-- what `ReqList` returns: entries whose version is the one the list gives their path (never the main module),
from which every other entry of the list is reachable through requirements; and every returned entry satisfies
whatever holds of the list and is preserved along requirement edges -/
theorem reqList_sound {fuel : Nat} {rq : Reqs} {main : Mod} {list out : List Mod}
    (hnd : (list.map (·.path)).Nodup) (h : reqList fuel rq main list = .ok out) :
    (∀ x ∈ out, x ≠ main ∧ ((listMap list).lookup x.path).getD .root = x.ver) ∧
    (∀ m ∈ list, m ≠ main → ∃ s ∈ out, RReach rq main s m) ∧
    (∀ P : Mod → Prop, P main → (∀ m ∈ list, P m) →
      (∀ a r b, P a → a ≠ main → rq.required a = some r → b ∈ r → P b) → ∀ x ∈ out, P x) := by
  obtain ⟨cache, post, min, hpost, hmin, rfl⟩ := reqList_ok h
  have ps := postorder_spec rq fuel [⟨main, list⟩] [(main, [])] [] cache post hpost
  obtain ⟨hv', _, _, c, d, e⟩ := selectMin_spec fuel cache (listMap list) _ [] [] min hmin
  -- the entries `ReqList` picked are listed nodes other than the main module, at the list's version
  have hmin' : ∀ x ∈ sortByPath min, (x ∈ post ∧ x ≠ main) ∧ ((listMap list).lookup x.path).getD .root = x.ver := by
    intro x hx
    rcases c x ((mem_sortByPath min x).mp hx) with h1 | ⟨h1, h2⟩
    · cases h1
    · exact ⟨(List.mem_filter.mp h1).imp id of_decide_eq_true, h2⟩
  refine ⟨fun x hx => ⟨(hmin' x hx).1.2, (hmin' x hx).2⟩, fun m hm hne => ?_, fun P hmain hlist hcl x hx => ?_⟩
  · -- `m` was cached as a child of the main frame, so it is a listed node, so it got marked from some pick
    obtain ⟨x, hx, rfl⟩ := ps.rest_cached ⟨main, list⟩ List.mem_cons_self m hm
    have hpostmem : x.1 ∈ post.filter (· ≠ main) := by
      rcases ps.new_in_post x hx with h1 | h1
      · cases List.mem_singleton.mp h1; exact absurd rfl hne
      · exact List.mem_filter.mpr ⟨h1, decide_eq_true hne⟩
    rcases e _ (d _ hpostmem (lookup_listMap list hnd _ hm)) with h1 | ⟨s, hs, hsr⟩
    · cases h1
    · exact ⟨s, (mem_sortByPath min s).mpr hs, rreach_of_creach ps hsr⟩
  · exact ps.prov P (List.forall_mem_singleton.mpr ⟨hmain, hlist⟩) (List.forall_mem_nil _)
      (fun a r b ha hna => hcl a r b ha fun e => hna ⟨(main, []), List.mem_cons_self, e.symm⟩) x (hmin' x hx).1.1

def PathFunctional (l : List Mod) : Prop := ∀ x ∈ l, ∀ y ∈ l, x.path = y.path → x = y

theorem reqList_functional {fuel : Nat} {rq : Reqs} {main : Mod} {list out : List Mod}
    (hnd : (list.map (·.path)).Nodup) (h : reqList fuel rq main list = .ok out) : PathFunctional out := by
  intro ⟨xp, xv⟩ hx ⟨yp, yv⟩ hy hp
  have h1 := ((reqList_sound hnd h).1 _ hx).2
  have h2 := ((reqList_sound hnd h).1 _ hy).2
  cases hp
  exact congrArg _ (h1.symm.trans h2)

theorem postorder_nil (rq : Reqs) (f : Nat) (cache : List (Mod × List Mod)) (post : List Mod) :
    postorder rq f [] cache post = .ok (cache, post) := by cases f <;> rfl

theorem postorder_congr {rq1 rq2 : Reqs} (Q : Mod → Prop) :
    ∀ (f1 f2 : Nat) (stk : List Frame) (cache : List (Mod × List Mod)) (post : List Mod) r1 r2,
      (∀ a r b, Q a → (¬ ∃ y ∈ cache, y.1 = a) → rq1.required a = some r → b ∈ r → Q b) →
      (∀ a, Q a → (¬ ∃ y ∈ cache, y.1 = a) → rq1.required a = rq2.required a) →
      (∀ fr ∈ stk, ∀ c ∈ fr.rest, Q c) →
      postorder rq1 f1 stk cache post = .ok r1 → postorder rq2 f2 stk cache post = .ok r2 → r1 = r2 := by
  intro f1
  induction f1 with
  | zero =>
    intro f2 stk cache post r1 r2 _ _ _ h1 h2
    cases stk with
    | nil => rw [postorder_nil] at h1 h2; exact (Except.ok.inj h1).symm.trans (Except.ok.inj h2)
    | cons fr stk => cases h1
  | succ f1 ih =>
    intro f2 stk cache post r1 r2 hcl hag hq h1 h2
    cases stk with
    | nil => rw [postorder_nil] at h1 h2; exact (Except.ok.inj h1).symm.trans (Except.ok.inj h2)
    | cons fr stk =>
      cases f2 with
      | zero => cases h2
      | succ f2 =>
        obtain ⟨m, rest⟩ := fr
        obtain ⟨hq0, hqstk⟩ := List.forall_mem_cons.mp hq
        cases rest with
        | nil => rw [postorder_pop] at h1 h2; exact ih f2 stk cache (m :: post) r1 r2 hcl hag hqstk h1 h2
        | cons c cs =>
          rw [postorder_child] at h1 h2
          obtain ⟨hqc, hqcs⟩ := List.forall_mem_cons.mp hq0
          have hqs : ∀ fr ∈ (⟨m, cs⟩ : Frame) :: stk, ∀ x ∈ fr.rest, Q x := List.forall_mem_cons.mpr ⟨hqcs, hqstk⟩
          by_cases hc : cache.any (·.1 = c) = true
          · rw [if_pos hc] at h1 h2
            exact ih f2 _ cache post r1 r2 hcl hag hqs h1 h2
          · rw [if_neg hc] at h1 h2
            have hnc : ¬ ∃ y ∈ cache, y.1 = c := fun hex => hc ((any_fst_iff cache c).mpr hex)
            rw [← hag c hqc hnc] at h2
            cases hreq : rq1.required c with
            | none => rw [hreq] at h1; cases h1
            | some req =>
              rw [hreq] at h1 h2
              exact ih f2 _ ((c, req) :: cache) post r1 r2 (fun a r b ha hna => hcl a r b ha (not_cached_of_cons hna))
                (fun a ha hna => hag a ha (not_cached_of_cons hna))
                (List.forall_mem_cons.mpr ⟨fun x hx => hcl c req x hqc hnc hreq hx, hqs⟩) h1 h2

theorem markHave_nil (cache : List (Mod × List Mod)) (f : Nat) (hv : List Mod) : markHave cache f [] hv = some hv := by
  cases f <;> rfl

theorem markHave_fuel_indep (cache : List (Mod × List Mod)) : ∀ (f1 f2 : Nat) (todo hv r1 r2 : List Mod),
    markHave cache f1 todo hv = some r1 → markHave cache f2 todo hv = some r2 → r1 = r2 := by
  intro f1
  induction f1 with
  | zero =>
    intro f2 todo hv r1 r2 h1 h2
    cases todo with
    | nil => rw [markHave_nil] at h1 h2; exact (Option.some.inj h1).symm.trans (Option.some.inj h2)
    | cons m t => cases h1
  | succ f1 ih =>
    intro f2 todo hv r1 r2 h1 h2
    cases todo with
    | nil => rw [markHave_nil] at h1 h2; exact (Option.some.inj h1).symm.trans (Option.some.inj h2)
    | cons m t =>
      cases f2 with
      | zero => cases h2
      | succ f2 =>
        rw [markHave_cons] at h1 h2
        by_cases hm : m ∈ hv
        · rw [if_pos hm] at h1 h2; exact ih f2 _ _ r1 r2 h1 h2
        · rw [if_neg hm] at h1 h2; exact ih f2 _ _ r1 r2 h1 h2

theorem selectMin_fuel_indep (cache : List (Mod × List Mod)) (maxv : Sel) (f1 f2 : Nat) : ∀ (l hv min r1 r2 : List Mod),
    selectMin f1 cache maxv l hv min = some r1 → selectMin f2 cache maxv l hv min = some r2 → r1 = r2 := by
  intro l
  induction l with
  | nil => intro hv min r1 r2 h1 h2; exact (Option.some.inj h1).symm.trans (Option.some.inj h2)
  | cons m rest ih =>
    intro hv min r1 r2 h1 h2
    rw [selectMin_cons] at h1 h2
    by_cases hc : (maxv.lookup m.path).getD .root ≠ m.ver
    · rw [if_pos hc] at h1 h2; exact ih _ _ r1 r2 h1 h2
    · rw [if_neg hc] at h1 h2
      by_cases hin : m ∈ hv
      · rw [if_pos hin] at h1 h2; exact ih _ _ r1 r2 h1 h2
      · rw [if_neg hin] at h1 h2
        cases hm1 : markHave cache f1 [m] hv with
        | none => rw [hm1] at h1; cases h1
        | some hv1 =>
          cases hm2 : markHave cache f2 [m] hv with
          | none => rw [hm2] at h2; cases h2
          | some hv2 =>
            rw [hm1] at h1; rw [hm2] at h2
            cases markHave_fuel_indep cache f1 f2 [m] hv hv1 hv2 hm1 hm2
            exact ih _ _ r1 r2 h1 h2

theorem reqList_congr {rq1 rq2 : Reqs} {main : Mod} {list r1 r2 : List Mod} {f1 f2 : Nat} (Q : Mod → Prop)
    (hcl : ∀ a r b, Q a → a ≠ main → rq1.required a = some r → b ∈ r → Q b)
    (hag : ∀ a, Q a → a ≠ main → rq1.required a = rq2.required a)
    (hq : ∀ c ∈ list, Q c)
    (h1 : reqList f1 rq1 main list = .ok r1) (h2 : reqList f2 rq2 main list = .ok r2) : r1 = r2 := by
  obtain ⟨cache1, post1, m1, hp1, hm1, rfl⟩ := reqList_ok h1
  obtain ⟨cache2, post2, m2, hp2, hm2, rfl⟩ := reqList_ok h2
  have notMain : ∀ {a : Mod}, (¬ ∃ y ∈ [(main, ([] : List Mod))], y.1 = a) → a ≠ main :=
    fun hna e => hna ⟨(main, []), List.mem_cons_self, e.symm⟩
  cases postorder_congr Q f1 f2 [⟨main, list⟩] [(main, [])] [] _ _
    (fun a r b ha hna => hcl a r b ha (notMain hna)) (fun a ha hna => hag a ha (notMain hna))
    (List.forall_mem_singleton.mpr hq) hp1 hp2
  rw [selectMin_fuel_indep _ _ f1 f2 _ _ _ m1 m2 hm1 hm2]

end Dawn.Mvs
