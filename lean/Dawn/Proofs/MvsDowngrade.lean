import Dawn.Proofs.MvsEdit
/-!
# `mvs.Downgrade`: `Reqs.Previous`, the loop `for excluded[r]`, and the list `get` writes from the answer

* `Reqs.Previous` answers `"none"` or a strictly smaller tagged version (`previousFrom_spec`);
* the loop `for excluded[r]`, one iteration at a time (`stepDown_succ`, `downCand`): what every iteration preserves is
  preserved by the loop (`stepDown_inv`, `downLoop_inv`), and the loop ends whenever `Previous` strictly decreases within
  a finite set of versions (`stepDown_terminates_on`);
* `previousD13` (the old `Reqs.Previous`) answers `""` instead of `"none"`: the loop then spins (D13);
* `firstLoopD14`: the old first loop of `transformReqs` (D14; its order dependence is `C11_alias_counterexample` in Props);
* the project file `get` writes after a downgrade resolves to the list `mvs.Downgrade` returned.
-/
namespace Dawn.Mvs

theorem previousFrom_spec {start : Ver} {e : Env} {r p : Mod} (h : previousFrom start e r = some p) :
    p.path = r.path ∧ (r.path = "" ∨ p.ver = start ∨
      ((⟨r.path, p.ver⟩ : Mod) ∈ e.tags ∧ semverCompare p.ver r.ver = .lt ∧ ∃ s, p.ver = .sv s)) := by
  unfold previousFrom at h
  split at h
  · next hr => cases h; exact ⟨rfl, Or.inl hr⟩
  · split at h
    · cases h
    · next versions hl =>
      cases h
      refine ⟨rfl, Or.inr ?_⟩
      refine foldl_pick_inv _ (fun w => w = start ∨
        ((⟨r.path, w⟩ : Mod) ∈ e.tags ∧ semverCompare w r.ver = .lt ∧ ∃ s, w = .sv s)) versions
        (fun sel v hv hs => ?_) start (Or.inl rfl)
      obtain ⟨hvt, hvp⟩ := listVersions_spec hl v hv
      exact Or.inr ⟨hvp ▸ hvt, hs.2.1, semverCompare_gt_sv hs.2.2⟩

theorem previous_path (e : Env) (r p : Mod) (h : previous e r = some p) : p.path = r.path := (previousFrom_spec h).1

theorem previous_weakOk (e : Env) (r p : Mod) (h : previous e r = some p) (hr : weakOk r) : weakOk p := by
  obtain ⟨hp, h2⟩ := previousFrom_spec h
  refine ⟨hp ▸ hr.1, ?_⟩
  rcases h2 with h1 | h1 | ⟨_, _, hs⟩
  · exact absurd h1 hr.1
  · exact Or.inl h1
  · exact Or.inr hs

/-- D13: the old `Reqs.Previous` on a module whose version is `""` (what it had itself returned one step earlier) answers
that same module again -/
theorem previousD13_fixpoint (e : Env) (p : String) (hp : p ≠ "") (hloc : located e p = true) :
    previousD13 e ⟨p, .root⟩ = some ⟨p, .root⟩ := by
  cases h : previousD13 e ⟨p, .root⟩ with
  | none => simp [previousD13, previousFrom, hp, listVersions, hloc] at h
  | some q =>
    obtain ⟨hq, h1 | h1 | ⟨_, hlt, s, hs⟩⟩ := previousFrom_spec h
    · exact absurd h1 hp
    · obtain ⟨_, _⟩ := q; cases hq; cases h1; rfl
    · rw [hs] at hlt; cases hlt

/-- where the loop goes from `r` when `Previous` answered `p`: to `p`, unless `r` is above the maximum recorded for its
path and `p` is below it — then to that maximum -/
def downCand (maxv : Sel) (r p : Mod) : Mod :=
  if vmax ((maxv.lookup r.path).getD .root) r.ver ≠ (maxv.lookup r.path).getD .root ∧
      vmax p.ver ((maxv.lookup r.path).getD .root) ≠ p.ver then ⟨p.path, (maxv.lookup r.path).getD .root⟩ else p

theorem stepDown_succ (fuel : Nat) (rq : Reqs) (prev : Mod → Option Mod) (maxv : Sel) (n : Nat) (st : DState) (r : Mod) :
    stepDown fuel rq prev maxv (n + 1) st r =
      if r ∉ st.excluded then .ok (st, some r)
      else match prev r with
        | .none => .error .other
        | some p =>
          if (downCand maxv r p).ver = .none then .ok (st, .none)
          else match add fuel rq maxv st (downCand maxv r p) with
            | .none => .error .fuel
            | some st' => stepDown fuel rq prev maxv n st' (downCand maxv r p) := rfl

theorem downCand_cases (maxv : Sel) (r p : Mod) :
    downCand maxv r p = p ∨
      ∃ v, maxv.lookup r.path = some v ∧ cmpVersion v r.ver = .lt ∧ downCand maxv r p = ⟨p.path, v⟩ := by
  unfold downCand
  split
  · next hc =>
    right
    cases hl : maxv.lookup r.path with
    | none => rw [hl] at hc; exact absurd (vmax_root_left _) hc.1
    | some v =>
      rw [hl] at hc
      refine ⟨v, rfl, ?_, rfl⟩
      have h1 := hc.1
      rw [Option.getD_some, vmax_eq] at h1
      split at h1
      · assumption
      · exact absurd rfl h1
  · exact Or.inl rfl

theorem stepDown_inv {fuel : Nat} {rq : Reqs} {prev : Mod → Option Mod} {maxv : Sel} {J : DState → Mod → Prop}
    (hstep : ∀ st r p st', J st r → prev r = some p → (downCand maxv r p).ver ≠ .none →
      add fuel rq maxv st (downCand maxv r p) = some st' → J st' (downCand maxv r p)) :
    ∀ (n : Nat) (st : DState) (r : Mod) (st' : DState) (res : Option Mod), J st r →
      stepDown fuel rq prev maxv n st r = .ok (st', res) →
      ∃ r₁, J st' r₁ ∧ ∀ r', res = some r' → r' = r₁ ∧ r' ∉ st'.excluded := by
  intro n
  induction n with
  | zero => intro st r st' res _ h; cases h
  | succ n ih =>
    intro st r st' res hJ h
    rw [stepDown_succ] at h
    split at h
    · next hne => cases h; exact ⟨r, hJ, fun r' hr' => by cases hr'; exact ⟨rfl, hne⟩⟩
    · split at h
      · cases h
      · next p hp =>
        split at h
        · cases h; exact ⟨r, hJ, fun _ hr' => nomatch hr'⟩
        · next hne =>
          split at h
          · cases h
          · next st1 hadd => exact ih _ _ _ _ (hstep st r p st1 hJ hp hne hadd) h

def below (vs : List Ver) (v : Ver) : Nat := (vs.filter fun w => cmpVersion w v = .lt).length

theorem below_lt {vs : List Ver} {a b : Ver} (ha : a ∈ vs) (hab : cmpVersion a b = .lt) : below vs a < below vs b := by
  apply filter_length_lt
  · intro x hx
    have hx' : cmpVersion x a = .lt := by simpa using hx
    simpa using lawful_cmpVersion.trans x a b hx' hab
  · refine ⟨a, ha, by simpa using hab, ?_⟩
    simp [lawful_cmpVersion.refl]

theorem stepDown_terminates_on (C : Mod → Prop) (fuel : Nat) (rq : Reqs) (prev : Mod → Option Mod) (maxv : Sel) (vs : List Ver)
    (hadd : ∀ st p, C p → (add fuel rq maxv st p).isSome)
    (hprev : ∀ r p, C r → prev r = some p → p.ver = .none ∨ (p.ver ∈ vs ∧ cmpVersion p.ver r.ver = .lt ∧ C p))
    (hmax : ∀ p v, maxv.lookup p = some v → v ∈ vs)
    (hadj : ∀ r p v, C r → prev r = some p → maxv.lookup r.path = some v → C ⟨p.path, v⟩) :
    ∀ (n : Nat) (st : DState) (r : Mod), C r → below vs r.ver < n →
      stepDown fuel rq prev maxv n st r ≠ .error .fuel ∧
      ∀ st' r', stepDown fuel rq prev maxv n st r = .ok (st', some r') → C r' := by
  intro n
  induction n with
  | zero => intro st r _ h; omega
  | succ n ih =>
    intro st r hcr hlt
    rw [stepDown_succ]
    by_cases hex : r ∉ st.excluded
    · rw [if_pos hex]; exact ⟨(fun h => nomatch h), fun st' r' h => by cases h; exact hcr⟩
    · rw [if_neg hex]
      cases hp : prev r with
      | none => exact ⟨(fun h => nomatch h), fun _ _ h => nomatch h⟩
      | some p =>
        dsimp only
        by_cases hne : (downCand maxv r p).ver = .none
        · rw [if_pos hne]; exact ⟨(fun h => nomatch h), fun _ _ h => nomatch h⟩
        · rw [if_neg hne]
          -- the candidate is below `r`, among the known versions, and a candidate again
          have key : (downCand maxv r p).ver ∈ vs ∧ cmpVersion (downCand maxv r p).ver r.ver = .lt ∧ C (downCand maxv r p) := by
            rcases downCand_cases maxv r p with h | ⟨v, hl, hlt, h⟩
            · rw [h] at hne ⊢; exact (hprev r p hcr hp).resolve_left hne
            · rw [h]; exact ⟨hmax _ _ hl, hlt, hadj r p v hcr hp hl⟩
          have hsome := hadd st _ key.2.2
          split
          · next h => rw [h] at hsome; cases hsome
          · exact ih _ _ key.2.2 (by have := below_lt key.1 key.2.1; omega)

theorem downLoop_inv {fuel : Nat} {rq : Reqs} {prev : Mod → Option Mod} {maxv : Sel} {I : DState → Prop} {C P : Mod → Prop}
    (hround : ∀ st r st1 st2 res, I st → C r → add fuel rq maxv st r = some st1 →
      stepDown fuel rq prev maxv fuel st1 r = .ok (st2, res) → I st2 ∧ ∀ r', res = some r' → P r') :
    ∀ (list : List Mod) (st : DState) (acc out : List Mod), I st → (∀ m ∈ list, C m) →
      downLoop fuel rq prev maxv list st acc = .ok out →
      (∀ x ∈ out, x ∈ acc ∨ P x) ∧ out.length ≤ acc.length + list.length := by
  intro list
  induction list with
  | nil =>
    intro st acc out _ _ h
    cases h
    exact ⟨fun _ => Or.inl, Nat.le_refl _⟩
  | cons r rest ih =>
    intro st acc out hI hl h
    rw [List.forall_mem_cons] at hl
    simp only [downLoop] at h
    split at h
    · cases h
    · next st1 hadd =>
      split at h
      · cases h
      · next st2 r' hsd =>
        obtain ⟨hI2, hP⟩ := hround st r st1 st2 _ hI hl.1 hadd hsd
        obtain ⟨hmem, hlen⟩ := ih st2 _ out hI2 hl.2 h
        refine ⟨fun x hx => (hmem x hx).elim (fun hx => ?_) Or.inr, by
          rw [List.length_append, List.length_singleton] at hlen; rw [List.length_cons]; omega⟩
        exact (List.mem_append.mp hx).imp_right fun hx => (List.mem_singleton.mp hx : x = r') ▸ hP r' rfl
      · next st2 hsd =>
        obtain ⟨hmem, hlen⟩ := ih st2 acc out (hround st r st1 st2 _ hI hl.1 hadd hsd).1 hl.2 h
        exact ⟨hmem, Nat.le_succ_of_le hlen⟩

/-- D13, the mechanism: once the loop `for excluded[r]` has reached a module with version `""` that is excluded and already
added, every further iteration asks the old `Previous` for the version before `""`, gets `""` again, and goes round:
whatever the number of iterations allowed, the loop does not end. -/
theorem stepDown_D13_spins (fuel : Nat) (rq : Reqs) (e : Env) (maxv : Sel) (p : String) (hp : p ≠ "")
    (hloc : located e p = true) (st : DState)
    (hex : (⟨p, .root⟩ : Mod) ∈ st.excluded) (hadded : (⟨p, .root⟩ : Mod) ∈ st.added) :
    ∀ n, stepDown fuel rq (previousD13 e) maxv n st ⟨p, .root⟩ = .error .fuel := by
  intro n
  induction n with
  | zero => rfl
  | succ n ih =>
    have hc : downCand maxv ⟨p, .root⟩ ⟨p, .root⟩ = ⟨p, .root⟩ := if_neg fun h => h.2 (vmax_root_left _)
    rw [stepDown_succ, if_neg (not_not_intro hex), previousD13_fixpoint e p hp hloc]
    simp only [hc, reduceCtorEq, ↓reduceIte, add, addEnter, hadded]
    exact ih

/-- the first loop of `transformReqs` before the fix of D14: every name of a path is given each returned entry for
that path in turn, so the last one in the order of the returned list wins -/
def firstLoopD14 (c : Config) (newVersions : List Mod) : Config :=
  newVersions.foldl (fun acc v =>
    if v.path = "" then acc
    else c.foldl (fun acc nr => if nr.2.path = v.path then (acc.filter (·.1 ≠ nr.1)) ++ [(nr.1, v)] else acc) acc) []

/-- the map `max` of `mvs.Downgrade` after the downgrade has been entered -/
def downMax (list : List Mod) (d : Mod) : Sel :=
  match (listMap list).lookup d.path with
  | some v => if vmax v d.ver ≠ d.ver then setSel (listMap list) d.path d.ver else listMap list
  | .none => setSel (listMap list) d.path d.ver

/-- the requirements `mvs.Downgrade` writes last: the modules of the old list that the build list `actual` still has, at
the versions they have there -/
def readBack (list actual : List Mod) : List Mod :=
  list.filterMap fun m => ((listMap actual).lookup m.path).map fun v => (⟨m.path, v⟩ : Mod)

theorem mvsDowngrade_eq (fuel : Nat) (rq : Reqs) (prev : Mod → Option Mod) (target d : Mod) :
    mvsDowngrade fuel rq prev target d =
      match buildList fuel rq target with
      | .error e => .error e
      | .ok full =>
        match downLoop fuel rq prev (downMax (full.drop 1) d) (full.drop 1) ⟨[], [], []⟩ [target] with
        | .error e => .error e
        | .ok downgraded =>
          match buildList fuel (override target downgraded rq) target with
          | .error e => .error e
          | .ok actual => buildList fuel (override target (readBack (full.drop 1) actual) rq) target := rfl

theorem mem_readBack {list actual : List Mod} (hnd : (actual.map (·.path)).Nodup) {x : Mod} (hx : x ∈ readBack list actual) :
    x ∈ actual ∧ ∃ m ∈ list, m.path = x.path := by
  obtain ⟨m, hm, hmx⟩ := List.mem_filterMap.mp hx
  cases hl : (listMap actual).lookup m.path with
  | none => simp [hl] at hmx
  | some v =>
    simp only [hl, Option.map_some, Option.some.injEq] at hmx
    subst hmx
    exact ⟨(lookup_listMap_some actual hnd m.path v).mp hl, m, hm, rfl⟩

theorem downMax_cases (list : List Mod) (d : Mod) :
    downMax list d = setSel (listMap list) d.path d.ver ∨
      ∃ v, (listMap list).lookup d.path = some v ∧ vmax v d.ver = d.ver ∧ downMax list d = listMap list := by
  unfold downMax
  split
  · next v hl =>
    split
    · exact Or.inl rfl
    · next hv => exact Or.inr ⟨v, hl, Decidable.of_not_not hv, rfl⟩
  · exact Or.inl rfl

theorem downMax_lookup_mem (list : List Mod) (d : Mod) (hnd : (list.map (·.path)).Nodup) (p : String) (v : Ver)
    (h : (downMax list d).lookup p = some v) : (⟨p, v⟩ : Mod) ∈ list ∨ (⟨p, v⟩ : Mod) = d := by
  rcases downMax_cases list d with hc | ⟨_, _, _, hc⟩ <;> rw [hc] at h
  · rw [lookup_setSel] at h
    split at h
    · next hp => cases h; exact Or.inr (hp ▸ rfl)
    · exact Or.inl ((lookup_listMap_some list hnd p v).mp h)
  · exact Or.inl ((lookup_listMap_some list hnd p v).mp h)

theorem mvsDowngrade_closure {fuel : Nat} {rq : Reqs} {prev : Mod → Option Mod} {target d : Mod} {bld : List Mod}
    {P : List Mod → Mod → Prop} (h : mvsDowngrade fuel rq prev target d = .ok bld)
    (hloop : ∀ full downgraded, buildList fuel rq target = .ok full →
      downLoop fuel rq prev (downMax (full.drop 1) d) (full.drop 1) ⟨[], [], []⟩ [target] = .ok downgraded →
      ∀ x ∈ downgraded, x = target ∨ P full x)
    (hreach : ∀ full L, (∀ s ∈ L, s = target ∨ P full s) →
      ∀ x, Reach (override target L rq) .none target x → x = target ∨ P full x) :
    ∃ full L, (∀ s ∈ L, s = target ∨ P full s) ∧ buildList fuel (override target L rq) target = .ok bld := by
  rw [mvsDowngrade_eq] at h
  split at h
  · cases h
  · next full hfull =>
    split at h
    · cases h
    · next downgraded hdown =>
      split at h
      · cases h
      · next actual hactual =>
        exact ⟨full, _, fun s hs => hreach full downgraded (hloop full downgraded hfull hdown) s
          (reach_of_mem_buildList hactual (mem_readBack (buildListWith_nodup hactual) hs).1), h⟩

/-- a version that can stand in a requirement the downgrade writes: canonical or `"none"` -/
def verOk (v : Ver) : Prop := v = .none ∨ ∃ s, v = .sv s

theorem upSetting_override {e : Env} {roots list' : List Mod} (hwf : WellFormed e roots)
    (hl : ∀ x ∈ list', x = rootMod ∨ weakOk x) :
    UpSetting False e roots (override rootMod list' (dawnReqs e roots)) some where
  env_ok := hwf.reqs_ok
  other _ hn := override_required_ne _ _ hn
  main := ⟨list', override_required_self _ _ _, fun h => absurd h id, hl⟩
  up_main := Or.inl rfl
  up_ok _ _ _ _ hup hne := absurd (Option.some.inj hup).symm hne

theorem get_downgrade {e : Env} {c c' : Config} {q : String} {fuel fuel' : Nat} {bl bl' : List Mod} {version : Mod}
    (hwf : WellFormed e (c.map (·.2)))
    (hget : Get fuel e c q = .ok c') (hbl : BuildList fuel e c = .ok bl)
    (hres : resolveVersionQuery e bl (parseVersionQuery q) = .ok version) (hver : okReq version)
    (hdown : ∃ cur ∈ bl, cur.path = version.path ∧ semverCompare cur.ver version.ver = .gt)
    (hbl' : BuildList fuel' e c' = .ok bl') :
    ∃ bld, mvsDowngrade fuel (dawnReqs e (c.map (·.2))) (previous e) rootMod version = .ok bld ∧ bl' = bld := by
  unfold Get at hget
  obtain ⟨nv, _, htx, _⟩ := transformReqs_ok hget
  unfold BuildList at hbl
  obtain ⟨cur, hcur, hcurp, hgt⟩ := hdown
  have hnd := buildListWith_nodup hbl
  rcases get_cases htx hbl hres with ⟨hfind, _⟩ | ⟨cur', hfind, hbr⟩
  · exact absurd hcurp (find?_path_none hfind cur hcur)
  obtain ⟨hc', hc'p⟩ := find?_path_some hfind
  cases inj_of_nodup_map (·.path) hnd hc' hcur (hc'p.trans hcurp.symm)
  rcases hbr with ⟨hc, _⟩ | ⟨hc, _⟩ | ⟨_, bld, hd, hreq⟩
  · rw [hgt] at hc; cases hc
  · rw [hgt] at hc; cases hc
  refine ⟨bld, hd, ?_⟩
  -- every round of the loop appends a project at a canonical version or at `"none"`; the two last build lists are plain
  -- explorations of the graph with the main project's requirements replaced, inside the one that upgrades nothing
  refine (mvsDowngrade_closure (P := fun _ => weakOk) hd (fun full downgraded hfull hdown x hx => ?_)
    (fun _ L hL x hx => reach_up_weakOk (upSetting_override hwf hL) (hx.with_up some))).elim fun _ ⟨L, hL, hbld⟩ =>
      edit_via_reqList ((upSetting_override hwf hL).closed_of_reach fun _ => Reach.with_up some)
        hbld hget htx hreq hbl'
  obtain ⟨htail, hndt⟩ := buildList_tail hfull
  have hlistOk : ∀ m ∈ full.drop 1, okReq m := fun m hm =>
    ureach_ok hwf (((buildList_dawn_mem hwf hfull m).mp (htail m hm).1).resolve_left fun e => (htail m hm).2 (e ▸ rfl)).1
  have hmax : ∀ p v, (downMax (full.drop 1) version).lookup p = some v → ∃ s, v = .sv s := by
    intro p v hl
    rcases downMax_lookup_mem _ version hndt p v hl with h1 | h1
    · exact (hlistOk _ h1).2
    · exact (h1 ▸ hver).2
  refine ((downLoop_inv (I := fun _ => True) (C := weakOk) (fun st r st1 st2 res _ hr _ hsd => ?_) _ _ _ _ trivial
    (fun m hm => weakOk_of_ok (hlistOk m hm)) hdown).1 x hx).imp_left List.mem_singleton.mp
  obtain ⟨r₁, h1, h2⟩ := stepDown_inv (J := fun _ r => weakOk r) (fun _ r p _ hr hp _ _ => by
    have hpw := previous_weakOk e r p hp hr
    rcases downCand_cases (downMax (full.drop 1) version) r p with h | ⟨v, hl, _, h⟩ <;> rw [h]
    · exact hpw
    · exact ⟨hpw.1, Or.inr (hmax _ _ hl)⟩) _ _ _ _ _ hr hsd
  exact ⟨trivial, fun r' hr' => (h2 r' hr').1 ▸ h1⟩

end Dawn.Mvs
