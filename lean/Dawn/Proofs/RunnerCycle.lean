import Dawn.Proofs.RunnerData
/-!
# Runner: cycle detection is sound and complete

`Path P a b` — `b` is reachable from `a` through at least one dependency edge (an unknown target has no edges:
it is never evaluated). Soundness (`Inv3`): every label on a walker's work list is reachable from the walker,
so a walker that meets itself lies on a cycle. Completeness (`Inv4`, ghost completion times): a target that
finishes without having been handed the cycle error finishes after all its dependencies, which is impossible
all the way round a cycle.
-/
namespace Dawn.Runner

def edges (P : Params) (l : Label) : List Label := if P.known l then P.deps l else []

inductive Path (P : Params) : Label → Label → Prop where
  | single {a b : Label} : b ∈ edges P a → Path P a b
  | cons {a b c : Label} : b ∈ edges P a → Path P b c → Path P a c

def ReachRT (P : Params) (a b : Label) : Prop := a = b ∨ Path P a b

theorem Path.trans {P : Params} {a b c : Label} (h : Path P a b) (h2 : Path P b c) : Path P a c := by
  induction h with
  | single h1 => exact .cons h1 h2
  | cons h1 _ ih => exact .cons h1 (ih h2)

/-- a transitive relation that contains the edges contains the paths -/
theorem Path.rel {P : Params} {r : Label → Label → Prop} (htr : ∀ {a b c}, r a b → r b c → r a c)
    (hedge : ∀ a b, b ∈ edges P a → r a b) {a b : Label} (h : Path P a b) : r a b := by
  induction h with
  | single h1 => exact hedge _ _ h1
  | cons h1 _ ih => exact htr (hedge _ _ h1) ih

theorem ReachRT.snoc {P : Params} {a b c : Label} (h : ReachRT P a b) (hc : c ∈ edges P b) : ReachRT P a c := by
  rcases h with rfl | h
  · exact Or.inr (.single hc)
  · exact Or.inr (h.trans (.single hc))

theorem mem_edges {P : Params} {l d : Label} (hk : P.known l = true) (hd : d ∈ P.deps l) : d ∈ edges P l := by
  unfold edges; rw [if_pos hk]; exact hd

theorem known_of_mem_edges {P : Params} {l d : Label} (hd : d ∈ edges P l) : P.known l = true ∧ d ∈ P.deps l := by
  unfold edges at hd
  split at hd
  next h => exact ⟨h, hd⟩
  · cases hd

/-- the program counters of a thread whose `EvaluateTargets` found / returned the cycle error -/
def PC.cycFound : PC → Bool
  | .unpubCyc | .enter2 none | .evalRest none => true
  | _ => false

/-- what a thread's program counter says about paths: a walker reaches everything on its work list, a thread that
    found or was returned the cycle error lies on a cycle -/
def PathOk (P : Params) (x : Label) : PC → Prop
  | .walk todo => ∀ d ∈ todo, Path P x d
  | .unpubCyc | .enter2 none | .evalRest none => Path P x x
  | _ => True

structure Inv3 (P : Params) (s : State) : Prop where
  reach : ∀ x, s.pc x ≠ none → ReachRT P P.root x
  path  : ∀ x p, s.pc x = some p → PathOk P x p
  cyc   : ∀ x, s.cyc x = true → Path P x x

theorem Inv3.reach_of {P : Params} {s : State} (i3 : Inv3 P s) {x : Label} {p : PC} (hx : s.pc x = some p) :
    ReachRT P P.root x := i3.reach x (by rw [hx]; nofun)

theorem Inv3.found {P : Params} {s : State} (i3 : Inv3 P s) (x : Label) (p : PC) (hx : s.pc x = some p)
    (hf : p.cycFound = true) : Path P x x := by
  have h := i3.path x p hx
  cases p with
  | unpubCyc => exact h
  | enter2 res | evalRest res => cases res with | none => exact h | some _ => cases hf
  | _ => cases hf

theorem inv3_local {P : Params} {s s' : State} (i3 : Inv3 P s) {l : Label} (hl : ReachRT P P.root l) (p' : PC)
    (hpc : s'.pc = upd s.pc l (some p')) (hpath : PathOk P l p')
    (hcyc : ∀ x, s'.cyc x = true → s.cyc x = true ∨ x = l ∧ Path P l l) : Inv3 P s' where
  reach := by
    intro x; rw [hpc]
    by_cases e : x = l
    · exact fun _ => e ▸ hl
    · rw [upd_other _ _ _ _ e]; exact i3.reach x
  path := by
    intro x; rw [hpc]
    by_cases e : x = l
    · subst e; rw [upd_same]; intro q hq; cases hq; exact hpath
    · rw [upd_other _ _ _ _ e]; exact i3.path x
  cyc := by
    intro x hx
    rcases hcyc x hx with h | ⟨rfl, h⟩
    · exact i3.cyc x h
    · exact h

theorem inv3_startTarget {P : Params} {s : State} (i3 : Inv3 P s) (d : Label) (hd : ReachRT P P.root d) :
    Inv3 P (startTarget s d) := by
  rcases startTarget_cases s d with ⟨_, e⟩ | ⟨_, e⟩ <;> rw [e]
  · exact i3
  · exact inv3_local i3 hd .enter1 rfl trivial (fun _ h => Or.inl h)

theorem inv3_tstep {P : Params} {s s' : State} {l : Label} {p : PC} (inv : Inv P s) (inv2 : Inv2 P s)
    (i3 : Inv3 P s) (hp : s.pc l = some p) (h : TStep P s l p s') : Inv3 P s' := by
  have hl := i3.reach_of hp
  have hpath := i3.path l p hp
  cases h with
  | load => exact inv3_local i3 hl _ rfl (by split <;> trivial) (fun _ h => Or.inl h)
  | start d rest =>
    have hk : P.known l = true := inv.known l _ hp rfl
    obtain ⟨pre, h1, _⟩ := inv2 l _ hp
    have hd : d ∈ P.deps l := by rw [h1]; exact List.mem_append_right _ List.mem_cons_self
    exact inv3_local (inv3_startTarget i3 d (hl.snoc (mem_edges hk hd))) hl _ rfl trivial
      fun x hx => Or.inl (startTarget_cyc s d ▸ hx)
  | publish =>
    have hk : P.known l = true := inv.known l _ hp rfl
    exact inv3_local i3 hl _ rfl (fun d hd => .single (mem_edges hk hd)) (fun _ h => Or.inl h)
  | found rest => exact inv3_local i3 hl _ rfl (hpath l List.mem_cons_self) (fun _ h => Or.inl h)
  | readPub d rest ds hdl hw =>
    -- `d` is published, so it is inside `Evaluate` (known) and its waiting set is its dependency list
    obtain ⟨rfl, q, hq, hpubq⟩ := inv.of_waiting hw
    have hkd : P.known d = true := inv.known d q hq (PC.inEval_of_published hpubq)
    refine inv3_local i3 hl _ rfl (fun y hy => ?_) (fun _ h => Or.inl h)
    rcases List.mem_append.mp hy with hy | hy
    · exact (hpath d List.mem_cons_self).trans (.single (mem_edges hkd hy))
    · exact hpath y (List.mem_cons_of_mem _ hy)
  | readNil d rest hdl hw =>
    exact inv3_local i3 hl _ rfl (fun y hy => hpath y (List.mem_cons_of_mem _ hy)) (fun _ h => Or.inl h)
  | unpubCyc => exact inv3_local i3 hl _ rfl hpath (fun _ h => Or.inl h)
  | enter2 res hc => exact inv3_local i3 hl _ rfl (by cases res <;> exact hpath) (fun _ h => Or.inl h)
  | evalRest res =>
    refine inv3_local i3 hl _ rfl trivial fun x hx => ?_
    by_cases e : x = l
    · subst e
      have hx : (s.cyc x || res.isNone) = true := (upd_same ..).symm.trans hx
      cases hc : s.cyc x with
      | true => exact Or.inl rfl
      | false =>
        rw [hc] at hx
        cases res with
        | none => exact Or.inr ⟨rfl, hpath⟩
        | some _ => cases hx
    · exact Or.inl ((upd_other _ _ _ _ e).symm.trans hx)
  | _ => exact inv3_local i3 hl _ rfl trivial (fun _ h => Or.inl h)

theorem inv3_mstep {P : Params} {s s' : State} (i3 : Inv3 P s) (h : MStep P s s') : Inv3 P s' := by
  cases h with
  -- `Inv3` does not read `main`: the same fields, about a state that differs only there
  | start hm => exact { inv3_startTarget i3 P.root (Or.inl rfl) with }
  | _ => exact { i3 with }

theorem Reachable.inv3 {P : Params} {s : State} (h : Reachable P s) : Inv3 P s :=
  h.rec_steps ⟨fun _ h => absurd rfl h, fun _ _ h => (nomatch h), fun _ h => (nomatch h)⟩ (fun _ i hm => inv3_mstep i hm)
    (fun hr i hp ht => inv3_tstep hr.inv hr.inv2 i hp ht)

structure Inv4 (P : Params) (s : State) : Prop where
  bound : ∀ x, (s.status x).final = true → s.ftime x < s.fclock
  order : ∀ x, (s.status x).final = true → P.known x = true → s.cyc x = false →
            ∀ d ∈ P.deps x, (s.status d).final = true ∧ s.ftime d < s.ftime x

theorem inv4_frame {P : Params} {s s' : State} (i4 : Inv4 P s)
    (hst : ∀ x, (s'.status x).final = true → s'.status x = s.status x)
    (hst' : ∀ x, (s.status x).final = true → s'.status x = s.status x)
    (hft : s'.ftime = s.ftime) (hfc : s'.fclock = s.fclock)
    (hcyc : ∀ x, (s.status x).final = true → s'.cyc x = s.cyc x) : Inv4 P s' where
  bound := by
    intro x hx
    rw [hst x hx] at hx
    rw [hft, hfc]; exact i4.bound x hx
  order := by
    intro x hx hk hc d hd
    rw [hst x hx] at hx
    rw [hcyc x hx] at hc
    obtain ⟨h2, h3⟩ := i4.order x hx hk hc d hd
    rw [hft]
    exact ⟨by rw [hst' d h2]; exact h2, h3⟩

theorem inv4_startTarget {P : Params} {s : State} (i4 : Inv4 P s) (d : Label) : Inv4 P (startTarget s d) := by
  rcases startTarget_cases s d with ⟨_, e⟩ | ⟨hidle, e⟩ <;> rw [e]
  · exact i4
  · refine inv4_frame i4 (fun x hx => ?_) (fun x hx => ?_) rfl rfl (fun _ _ => rfl)
    · by_cases e : x = d
      · subst e; have hx : (upd s.status x .running x).final = true := hx; rw [upd_same] at hx; cases hx
      · exact upd_other _ _ _ _ e
    · exact upd_other _ _ _ _ fun c => by rw [c, hidle] at hx; cases hx

theorem inv4_tstep {P : Params} {s s' : State} {l : Label} {p : PC} (inv : Inv P s) (inv2 : Inv2 P s)
    (i4 : Inv4 P s) (hp : s.pc l = some p) (h : TStep P s l p s') : Inv4 P s' := by
  cases h with
  | start d rest => exact { inv4_startTarget i4 d with }  -- `Inv4` does not read `pc`
  | evalRest res =>
    refine inv4_frame i4 (fun _ _ => rfl) (fun _ _ => rfl) rfl rfl fun x hx => ?_
    exact upd_other _ _ _ _ fun c => by rw [c, inv.running_of hp rfl] at hx; cases hx
  | finish st e =>
    -- a target that had finished before is not `l`: its status and completion time stay
    have hold : ∀ d, (s.status d).final = true →
        (upd s.status l st d).final = true ∧ upd s.ftime l s.fclock d = s.ftime d := fun d hd => by
      have : d ≠ l := fun c => by rw [c, inv.running_of hp rfl] at hd; cases hd
      rw [upd_other _ _ _ _ this, upd_other _ _ _ _ this]; exact ⟨hd, rfl⟩
    refine ⟨upd_rel₂ (R := fun _ (st : Status) ft => st.final = true → ft < s.fclock + 1)
      (fun x h => Nat.lt_succ_of_lt (i4.bound x h)) (fun _ => Nat.lt_succ_self _), ?_⟩
    refine upd_rel₂ (R := fun x (st' : Status) ft => st'.final = true → P.known x = true → s.cyc x = false →
      ∀ d ∈ P.deps x, (upd s.status l st d).final = true ∧ upd s.ftime l s.fclock d < ft) (fun x hx hk hc d hd => ?_)
      (fun _ hk hc d hd => ?_)
    · obtain ⟨h2, h3⟩ := i4.order x hx hk hc d hd
      rw [(hold d h2).2]; exact ⟨(hold d h2).1, h3⟩
    · -- the thread's own outcome: all its dependencies had finished when it was computed
      rcases (inv2 l _ hp : OutcomeSpec P s l st e) with ⟨h1, _⟩ | ⟨_, h2, _⟩ | ⟨_, _, h3, _⟩
      · rw [hk] at h1; cases h1
      · rw [hc] at h2; cases h2
      · rw [(hold d (h3 d hd)).2]; exact ⟨(hold d (h3 d hd)).1, i4.bound d (h3 d hd)⟩
  | _ => exact inv4_frame i4 (fun _ _ => rfl) (fun _ _ => rfl) rfl rfl (fun _ _ => rfl)

theorem inv4_mstep {P : Params} {s s' : State} (i4 : Inv4 P s) (h : MStep P s s') : Inv4 P s' := by
  cases h with
  -- `Inv4` does not read `main`
  | start hm => exact { inv4_startTarget i4 P.root with }
  | _ => exact { i4 with }

theorem Reachable.inv4 {P : Params} {s : State} (h : Reachable P s) : Inv4 P s :=
  h.rec_steps ⟨fun _ h => (nomatch h), fun _ h => (nomatch h)⟩ (fun _ i hm => inv4_mstep i hm)
    (fun hr i hp ht => inv4_tstep hr.inv hr.inv2 i hp ht)

/-- Inside a set `G` of finished targets without the cycle error that is closed under dependencies, completion times
    fall strictly along every path: no cycle is reachable from `G`. -/
theorem no_cycle_from {P : Params} {s : State} (i4 : Inv4 P s) (G : Label → Prop)
    (hG : ∀ a, G a → (s.status a).final = true ∧ s.cyc a = false)
    (hcl : ∀ a, G a → P.known a = true → ∀ d ∈ P.deps a, G d)
    {a x : Label} (ha : G a) (hx : ReachRT P a x) (hcyc : Path P x x) : False := by
  have along : ∀ {a b}, Path P a b → G a → G b ∧ s.ftime b < s.ftime a := fun hp =>
    hp.rel (r := fun a b => G a → G b ∧ s.ftime b < s.ftime a)
      (fun h1 h2 ha => have ⟨hb, h⟩ := h1 ha; have ⟨hc, h'⟩ := h2 hb; ⟨hc, Nat.lt_trans h' h⟩)
      fun _ _ h1 ha => have ⟨hk, hd⟩ := known_of_mem_edges h1
        ⟨hcl _ ha hk _ hd, (i4.order _ (hG _ ha).1 hk (hG _ ha).2 _ hd).2⟩
  have hGx : G x := by
    rcases hx with rfl | hp
    · exact ha
    · exact (along hp ha).1
  exact Nat.lt_irrefl _ (along hcyc hGx).2

end Dawn.Runner
