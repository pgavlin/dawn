import Dawn.Proofs.EnvBasic
/-!
Termination of the repaired traversal (`Cfg.fixed = true`) on every finite heap, without error on a sound one —
C08_terminates, C08_terminates_ok: one induction over the traversal (`encVal_good`).

Measure of a call `encVal … st v`: `U st * (N + 1) + rank v`, where `N` is the heap size, `U st` counts the
addresses below `N` that are not memoised plus those not yet seen by the pickler, and `rank (ref a) = a + 1`.
Entering a list / dict / set memoises it first, entering a function or function code adds it to `seen` first
(both lower `U`); a function or code that is met again while in progress is answered with the marker (no
recursion); a tuple's elements have smaller addresses (`TuplesOrdered`: a tuple's elements exist before the
tuple does), so the rank drops while `U` cannot grow.
-/
namespace Dawn.Env

/-- a tuple's elements exist before the tuple: every address in a tuple is below the tuple's own -/
def TuplesOrdered (g : Heap) : Prop :=
  ∀ a xs c, g[a]? = some (.tuple xs) → Val.ref c ∈ xs → c < a

/-- executable form of `TuplesOrdered` -/
def tuplesOrderedAt (a : Nat) : Obj → Bool
  | .tuple xs => xs.all fun v => match v with | .ref c => decide (c < a) | _ => true
  | _ => true

def tuplesOrderedFrom : Nat → Heap → Bool
  | _, [] => true
  | a, o :: rest => tuplesOrderedAt a o && tuplesOrderedFrom (a + 1) rest

def tuplesOrdered (g : Heap) : Bool := tuplesOrderedFrom 0 g

theorem tuplesOrderedFrom_spec (g : Heap) (k : Nat) (h : tuplesOrderedFrom k g = true) :
    ∀ a xs c, g[a]? = some (.tuple xs) → Val.ref c ∈ xs → c < a + k := by
  induction g generalizing k with
  | nil => intro a xs c h1; cases h1
  | cons o rest ih =>
    simp only [tuplesOrderedFrom, Bool.and_eq_true] at h
    intro a xs c h1 h2
    cases a with
    | zero =>
      obtain rfl : o = .tuple xs := Option.some.inj h1
      have := List.all_eq_true.mp h.1 _ h2
      simp only [decide_eq_true_eq] at this
      omega
    | succ a =>
      have := ih (k + 1) h.2 a xs c h1 h2
      omega

theorem tuplesOrdered_spec (g : Heap) (h : tuplesOrdered g = true) : TuplesOrdered g := by
  intro a xs c h1 h2
  have := tuplesOrderedFrom_spec g 0 h a xs c h1 h2
  omega

def EncSt.le (s t : EncSt) : Prop :=
  (∀ a, (lookup s.memo a).isSome → (lookup t.memo a).isSome) ∧ (∀ a, a ∈ s.seen → a ∈ t.seen)

theorem EncSt.le_refl (s : EncSt) : s.le s := ⟨fun _ h => h, fun _ h => h⟩

theorem EncSt.le_trans {s t u : EncSt} (h1 : s.le t) (h2 : t.le u) : s.le u :=
  ⟨fun a h => h2.1 a (h1.1 a h), fun a h => h2.2 a (h1.2 a h)⟩

theorem EncSt.le_memoize (cfg : Cfg) (s : EncSt) (a : Nat) : s.le (s.memoize cfg a) := by
  refine ⟨fun b h => ?_, fun _ h => h⟩
  simp only [EncSt.memoize, lookup_cons]
  split <;> simp_all

theorem EncSt.le_seen (s : EncSt) (a : Nat) : s.le { s with seen := s.seen ++ [a] } :=
  ⟨fun _ h => h, fun _ h => List.mem_append_left _ h⟩

def unmemo (g : Heap) (st : EncSt) : Nat := (List.range g.length).countP fun a => (lookup st.memo a).isNone
def unseen (g : Heap) (st : EncSt) : Nat := (List.range g.length).countP fun a => decide (a ∉ st.seen)
def U (g : Heap) (st : EncSt) : Nat := unmemo g st + unseen g st

def rank (g : Heap) : Val → Nat
  | .atom _ => 0
  | .ref a => if a < g.length then a + 1 else 0

def mu (g : Heap) (st : EncSt) (v : Val) : Nat := U g st * (g.length + 1) + rank g v

theorem countP_strict {α} (p q : α → Bool) (l : List α) (a : α) (ha : a ∈ l)
    (hpq : ∀ x, q x = true → p x = true) (hp : p a = true) (hq : q a = false) :
    l.countP q + 1 ≤ l.countP p := by
  induction l with
  | nil => cases ha
  | cons x xs ih =>
    have hmono : xs.countP q ≤ xs.countP p := List.countP_mono_left (fun y _ => hpq y)
    simp only [List.countP_cons]
    rcases List.mem_cons.mp ha with rfl | hin
    · simp [hp, hq]; omega
    · have := ih hin
      by_cases hqx : q x = true
      · simp [hqx, hpq x hqx]; omega
      · simp [hqx]; omega

theorem EncSt.le.memo {s t : EncSt} (h : s.le t) (x : Nat) :
    (lookup t.memo x).isNone = true → (lookup s.memo x).isNone = true := by
  have := h.1 x
  revert this
  cases lookup s.memo x <;> cases lookup t.memo x <;> simp

theorem EncSt.le.seen {s t : EncSt} (h : s.le t) (x : Nat) : decide (x ∉ t.seen) = true → decide (x ∉ s.seen) = true := by
  simp only [decide_eq_true_eq]
  exact fun hn hs => hn (h.2 x hs)

theorem U_mono (g : Heap) {s t : EncSt} (h : s.le t) : U g t ≤ U g s :=
  Nat.add_le_add (List.countP_mono_left fun x _ => h.memo x) (List.countP_mono_left fun x _ => h.seen x)

theorem mu_mono (g : Heap) {s t : EncSt} (h : s.le t) (v : Val) : mu g t v ≤ mu g s v :=
  Nat.add_le_add_right (Nat.mul_le_mul_right _ (U_mono g h)) _

/-- `U` drops when the state grows by an address of the heap that becomes memoised, or seen -/
theorem U_lt (g : Heap) {s t : EncSt} (h : s.le t) {a : Nat} (ha : a < g.length)
    (hw : lookup s.memo a = none ∧ (lookup t.memo a).isSome ∨ a ∉ s.seen ∧ a ∈ t.seen) : U g t + 1 ≤ U g s := by
  have hr := List.mem_range.mpr ha
  rcases hw with ⟨p, q⟩ | ⟨p, q⟩
  · have h1 := countP_strict _ _ _ a hr h.memo (by simp [p]) (by simpa using q)
    have h2 : unseen g t ≤ unseen g s := List.countP_mono_left fun x _ => h.seen x
    simp only [U, unmemo]; omega
  · have h1 : unmemo g t ≤ unmemo g s := List.countP_mono_left fun x _ => h.memo x
    have h2 := countP_strict _ _ _ a hr h.seen (by simpa using p) (by simpa using q)
    simp only [U, unseen]; omega

theorem U_memoize (cfg : Cfg) (g : Heap) (st : EncSt) (a : Nat) (ha : a < g.length) (hm : lookup st.memo a = none) :
    U g (st.memoize cfg a) + 1 ≤ U g st :=
  U_lt g (EncSt.le_memoize cfg st a) ha (.inl ⟨hm, by simp [EncSt.memoize, lookup_cons]⟩)

theorem U_seen (g : Heap) (st : EncSt) (a : Nat) (ha : a < g.length) (hs : a ∉ st.seen) :
    U g { st with seen := st.seen ++ [a] } + 1 ≤ U g st :=
  U_lt g (EncSt.le_seen st a) ha (.inr ⟨hs, by simp⟩)

theorem mem_flattenKvs_all (kvs : List (Val × Val)) (b : List Val) (hb : b ∈ (chunks n kvs).map flattenKvs)
    (x : Val) (hx : x ∈ b) : x ∈ flattenKvs kvs := by
  rw [chunks_flattenKvs] at hb
  exact mem_chunks _ _ b hb x hx

/-- `C`: the heap is sound and the arguments of the call are closed -/
def Good (C : Prop) (st : EncSt) (r : Res) : Prop :=
  (∀ e, r = .error e → e ≠ .outOfFuel ∧ ¬ C) ∧ ∀ st' ops, r = .ok (st', ops) → st.le st'

theorem Good.mono {C : Prop} {s t : EncSt} {r : Res} (h : s.le t) (hg : Good C t r) : Good C s r :=
  ⟨hg.1, fun st' ops e => EncSt.le_trans h (hg.2 st' ops e)⟩

theorem Good.weaken {C C' : Prop} {s : EncSt} {r : Res} (h : C → C') (hg : Good C' s r) : Good C s r :=
  ⟨fun e he => ⟨(hg.1 e he).1, fun c => (hg.1 e he).2 (h c)⟩, hg.2⟩

theorem Good_ok_le {C : Prop} {st st' : EncSt} {ops : List Op} (h : st.le st') : Good C st (.ok (st', ops)) :=
  ⟨nofun, fun s o e => by cases e; exact h⟩

theorem Good_err {C : Prop} {st : EncSt} {e : Err} (h : e ≠ .outOfFuel) (hc : ¬ C) : Good C st (.error e) :=
  ⟨fun e' he => by cases he; exact ⟨h, hc⟩, nofun⟩

/-- `Good` goes through the encoder's way of propagating an error: the rest of the call starts from a larger state -/
theorem Good.bind {C : Prop} {st : EncSt} {r : Res} {k : EncSt → List Op → Res} :
    Good C st r → (∀ s o, st.le s → Good C s (k s o)) →
      Good C st (match r with | .error e => .error e | .ok (s, o) => k s o) := by
  intro h hk
  rcases r with e | ⟨s, o⟩
  · exact h
  · exact (hk s o (h.2 s o rfl)).mono (h.2 s o rfl)

def Spec (g : Heap) (S : Prop) (f : EncSt → Val → Res) (B : Nat) : Prop :=
  ∀ st v, mu g st v ≤ B → Good (S ∧ ValClosed g v) st (f st v)

theorem encSeq_good (g : Heap) (S : Prop) (f : EncSt → Val → Res) (B : Nat) (hf : Spec g S f B) (xs : List Val) (st : EncSt)
    (hB : ∀ x ∈ xs, mu g st x ≤ B) : Good (S ∧ ∀ x ∈ xs, ValClosed g x) st (encSeq f st xs) := by
  induction xs generalizing st with
  | nil => exact Good_ok_le (EncSt.le_refl _)
  | cons x xs ih =>
    exact ((hf st x (hB x (List.mem_cons_self ..))).weaken fun c => ⟨c.1, c.2 x (List.mem_cons_self ..)⟩).bind fun s₁ _ h₁ =>
      ((ih s₁ fun y hy => Nat.le_trans (mu_mono g h₁ y) (hB y (List.mem_cons_of_mem _ hy))).weaken
        fun c => ⟨c.1, fun y hy => c.2 y (List.mem_cons_of_mem _ hy)⟩).bind fun _ _ _ => Good_ok_le (EncSt.le_refl _)

theorem encBatches_good (cfg : Cfg) (g : Heap) (S : Prop) (f : EncSt → Val → Res) (B : Nat) (hf : Spec g S f B) (self : Nat)
    (close : Op) (bs : List (List Val)) (first : Bool) (st : EncSt) (hB : ∀ b ∈ bs, ∀ x ∈ b, mu g st x ≤ B) :
    Good (S ∧ ∀ b ∈ bs, ∀ x ∈ b, ValClosed g x) st (encBatches cfg f self close first st bs) := by
  induction bs generalizing first st with
  | nil => exact Good_ok_le (EncSt.le_refl _)
  | cons b bs ih =>
    exact ((encSeq_good g S f B hf b st (hB b (List.mem_cons_self ..))).weaken
        fun c => ⟨c.1, c.2 b (List.mem_cons_self ..)⟩).bind fun s₁ _ h₁ =>
      ((ih false s₁ fun b' hb' y hy =>
        Nat.le_trans (mu_mono g h₁ y) (hB b' (List.mem_cons_of_mem _ hb') y hy)).weaken
          fun c => ⟨c.1, fun b' hb' => c.2 b' (List.mem_cons_of_mem _ hb')⟩).bind fun _ _ _ => Good_ok_le (EncSt.le_refl _)

theorem rank_le (g : Heap) (v : Val) : rank g v ≤ g.length := by
  cases v with
  | atom a => simp [rank]
  | ref a => simp only [rank]; split <;> omega

theorem arith_enter (U' U N a fuel r : Nat) (h1 : U' + 1 ≤ U) (h2 : U * (N + 1) + a + 1 ≤ fuel) (hr : r ≤ N) :
    U' * (N + 1) + r ≤ fuel - 1 := by
  have h3 : (U' + 1) * (N + 1) ≤ U * (N + 1) := Nat.mul_le_mul_right _ h1
  rw [Nat.succ_mul] at h3
  omega

theorem mu_lt_fuelBound (g : Heap) (root : Val) : mu g {} root < fuelBound g := by
  have cnt : ∀ p : Nat → Bool, (List.range g.length).countP p ≤ g.length :=
    fun _ => Nat.le_trans List.countP_le_length (Nat.le_of_eq List.length_range)
  have hU : U g {} ≤ g.length + g.length := Nat.add_le_add (cnt _) (cnt _)
  have h1 := Nat.mul_le_mul_right (g.length + 1) hU
  have h2 := rank_le g root
  show U g {} * (g.length + 1) + rank g root < (2 * g.length + 1) * (g.length + 1) + 1
  rw [Nat.add_mul _ 1, Nat.one_mul, Nat.two_mul]
  omega

theorem encVal_good (cfg : Cfg) (hfix : cfg.fixed = true) (g : Heap) (hto : TuplesOrdered g) :
    ∀ fuel st v, mu g st v < fuel → Good (Sound cfg g ∧ ValClosed g v) st (encVal cfg g fuel st v) := by
  intro fuel
  induction fuel with
  | zero => intro st v h; omega
  | succ fuel ih =>
    intro st v hmu
    have ret : ∀ {C : Prop} {s : EncSt} {ops : List Op}, Good C s (.ok (s, ops)) := Good_ok_le (EncSt.le_refl _)
    cases v with
    | atom a => exact ret
    | ref a =>
      unfold encVal
      cases hl : lookup st.memo a with
      | some id => exact ret
      | none =>
        cases hg : g[a]? with
        | none => exact Good_err (by decide) fun c => Nat.not_lt.mpr (List.getElem?_eq_none_iff.mp hg) c.2
        | some o =>
          have halt : a < g.length := (List.getElem?_eq_some_iff.mp hg).1
          have hmu' : U g st * (g.length + 1) + a + 1 ≤ fuel := by
            simp only [mu, rank, halt, ↓reduceIte] at hmu; omega
          have hspec : Spec g (Sound cfg g) (encVal cfg g fuel) (fuel - 1) := fun st1 v1 h1 => ih st1 v1 (by omega)
          -- the budget of the children once the node itself has lowered `U`
          have enter : ∀ st1 : EncSt, U g st1 + 1 ≤ U g st → ∀ x, mu g st1 x ≤ fuel - 1 := fun st1 h1 x =>
            arith_enter _ _ _ _ _ _ h1 hmu' (rank_le g x)
          -- on a sound heap the values the object refers to are closed
          have kids : Sound cfg g ∧ ValClosed g (.ref a) → ∀ x ∈ objVals o, ValClosed g x := fun c =>
            c.1.2.1 o (List.mem_of_getElem? hg)
          -- a list, dict or set is memoised before its batches are written
          have memo := EncSt.le_memoize cfg st a
          have batches : ∀ close bs, (∀ b ∈ bs, ∀ x ∈ b, x ∈ objVals o) → Good (Sound cfg g ∧ ValClosed g (.ref a))
              (st.memoize cfg a) (encBatches cfg (encVal cfg g fuel) a close true (st.memoize cfg a) bs) := fun close bs hk =>
            (encBatches_good cfg g _ _ _ hspec a close bs true _ fun _ _ x _ => enter _ (U_memoize cfg g st a halt hl) x).weaken
              fun c => ⟨c.1, fun b hb x hx => kids c x (hk b hb x hx)⟩
          -- a builtin, function or function code enters `seen` before its arguments are written, and is memoised after
          have see := EncSt.le_seen st a
          have arg : indexOf st.seen a = none → ∀ x, mu g { st with seen := st.seen ++ [a] } x ≤ fuel - 1 := fun hi x =>
            enter _ (U_seen g st a halt ((indexOf_none _ _).mp hi)) x
          have done : ∀ {C : Prop} {s : EncSt} {ops : List Op}, Good C s (.ok (s.memoize cfg a, ops)) :=
            Good_ok_le (EncSt.le_memoize cfg _ a)
          cases o with
          | tuple xs =>
            have hxs : ∀ x ∈ xs, mu g st x ≤ fuel - 1 := by
              intro x hx
              cases x with
              | atom b => simp only [mu, rank]; omega
              | ref c =>
                have := hto a xs c hg hx
                simp only [mu, rank]; split <;> omega
            exact ((encSeq_good g _ _ _ hspec xs st hxs).weaken fun c => ⟨c.1, kids c⟩).bind fun _ _ _ => ret
          | set xs => exact ((batches _ _ (mem_chunks _ xs)).bind fun _ _ _ => ret).mono memo
          | dict kvs => exact ((batches _ _ (mem_flattenKvs_all kvs)).bind fun _ _ _ => ret).mono memo
          | list xs =>
            match xs with
            | [] => exact done
            | [x] =>
              exact (((hspec _ x (enter _ (U_memoize cfg g st a halt hl) x)).weaken
                fun c => ⟨c.1, kids c x (List.mem_cons_self ..)⟩).bind fun _ _ _ => ret).mono memo
            | x :: y :: r => exact ((batches _ _ (mem_chunks _ (x :: y :: r))).bind fun _ _ _ => ret).mono memo
          | target label => exact done
          | mandatory =>
            simp only []
            split
            · exact done
            · next h => exact Good_err (by decide) fun c => h c.1.1
          | other => exact Good_err (by decide) fun c => c.1.2.2 (List.mem_of_getElem? hg)
          | builtin name recv =>
            simp only [hfix, ↓reduceIte]
            split
            · cases hi : indexOf st.seen a with
              | some idx => exact done
              | none =>
                exact (((hspec _ recv (arg hi recv)).weaken fun c => ⟨c.1, kids c recv (List.mem_cons_self ..)⟩).bind
                  fun _ _ _ => done).mono see
            · exact done
          | code name m gl bc sig =>
            simp only [hfix, ↓reduceIte]
            cases hi : indexOf st.seen a with
            | some idx => exact done
            | none =>
              refine (((encSeq_good g _ _ _ hspec [m, gl] _ fun x _ => arg hi x).weaken fun c => ⟨c.1, fun x hx => kids c x (List.mem_append_left [sig] hx)⟩).bind
                fun s₁ _ h₁ => ?_).mono see
              split
              · exact ((hspec s₁ sig (Nat.le_trans (mu_mono g h₁ sig) (arg hi sig))).weaken
                  fun c => ⟨c.1, kids c sig (.tail _ (.tail _ (.head _)))⟩).bind fun _ _ _ => done
              · exact done
          | func name d fv c =>
            simp only [hfix, ↓reduceIte]
            cases hi : indexOf st.seen a with
            | some idx => exact done
            | none =>
              exact (((encSeq_good g _ _ _ hspec [d, fv, c] _ fun x _ => arg hi x).weaken fun c => ⟨c.1, kids c⟩).bind
                fun _ _ _ => done).mono see

end Dawn.Env
