import Dawn.Model.Pickle
/-! `parseDecimal` reads back the decimal text `intText` writes (the INT opcode's payload), for every integer. -/
namespace Dawn.Pickle

def ofDigits (ds : List Nat) : Nat := ds.foldl (fun a d => a * 10 + d) 0

theorem ofDigits_snoc (ds : List Nat) (d : Nat) : ofDigits (ds ++ [d]) = ofDigits ds * 10 + d := by
  simp [ofDigits, List.foldl_append]

structure Decimal (ds : List Nat) (n : Nat) : Prop where
  ne : ds ≠ []
  lt : ∀ d ∈ ds, d < 10
  val : ofDigits ds = n
  one : n < 10 → ds = [n]
  lead : 10 ≤ n → ds.head? ≠ some 0 ∧ 2 ≤ ds.length

theorem digitsAux_spec : ∀ (fuel n : Nat), n < fuel → Decimal (digitsAux fuel n) n := by
  intro fuel
  induction fuel with
  | zero => intro n h; omega
  | succ fuel ih =>
    intro n hn
    simp only [digitsAux]
    split
    · rename_i hlt
      refine ⟨by simp, by simpa using hlt, by simp [ofDigits], fun _ => rfl, fun h => by omega⟩
    · rename_i hge
      obtain ⟨h1, h2, h3, h4, h5⟩ := ih (n / 10) (by omega)
      refine ⟨by simp, ?_, ?_, fun h => by omega, fun _ => ⟨?_, ?_⟩⟩
      · intro d hd
        simp only [List.mem_append, List.mem_singleton] at hd
        rcases hd with hd | rfl
        · exact h2 d hd
        · omega
      · rw [ofDigits_snoc, h3]; omega
      · have happ : ∀ (l : List Nat) (x : Nat), l ≠ [] → (l ++ [x]).head? = l.head? := by
          intro l x hl; cases l with
          | nil => exact absurd rfl hl
          | cons _ _ => rfl
        rw [happ _ _ h1]
        by_cases hs : n / 10 < 10
        · rw [h4 hs]; simp; omega
        · exact (h5 (by omega)).1
      · have : 0 < (digitsAux fuel (n / 10)).length := List.length_pos_iff.mpr h1
        simp; omega

theorem digits_spec (n : Nat) : Decimal (digits n) n :=
  digitsAux_spec (n + 1) n (Nat.lt_succ_self n)

def digitByte (d : Nat) : UInt8 := UInt8.ofNat (48 + d)

theorem digitByte_toNat (d : Nat) (h : d < 10) : (digitByte d).toNat = 48 + d := by
  simp only [digitByte, UInt8.toNat_ofNat']; omega

theorem natText_eq (n : Nat) : natText n = (digits n).map digitByte := rfl

theorem parseNat_map (ds : List Nat) (h : ∀ d ∈ ds, d < 10) (acc : Nat) :
    (ds.map digitByte).foldl (fun a c => a * 10 + (c.toNat - 48)) acc = ds.foldl (fun a d => a * 10 + d) acc := by
  induction ds generalizing acc with
  | nil => rfl
  | cons d ds ih =>
    simp only [List.map_cons, List.foldl_cons]
    rw [digitByte_toNat d (h d (by simp)), ih (fun x hx => h x (by simp [hx]))]
    congr 1; omega

theorem parseNat_natText (n : Nat) : parseNat (natText n) = n := by
  rw [natText_eq, parseNat, parseNat_map _ (digits_spec n).lt]
  exact (digits_spec n).val

theorem isDigit_digitByte (d : Nat) (h : d < 10) : isDigit (digitByte d) = true := by
  simp only [isDigit, digitByte_toNat d h, decide_eq_true_eq]; omega

theorem digitByte_ne {d : Nat} (h : d < 10) {c : UInt8} (hc : c.toNat < 48) : digitByte d ≠ c := by
  rintro rfl
  rw [digitByte_toNat d h] at hc
  omega

theorem digitByte_eq_48 (d : Nat) (h : d < 10) : digitByte d = 48 ↔ d = 0 := by
  constructor
  · intro he
    have := he ▸ digitByte_toNat d h
    simpa using this
  · rintro rfl; rfl

theorem natText_canon (n : Nat) :
    natText n ≠ [] ∧ (natText n).all isDigit = true ∧ ((natText n).length = 1 ∨ (natText n).head? ≠ some 48) ∧
    (natText n).head? ≠ some minus ∧ (natText n = [48] → n = 0) := by
  have hd := digits_spec n
  rw [natText_eq]
  refine ⟨by simpa using hd.ne, ?_, ?_, ?_, ?_⟩
  · simp only [List.all_map, List.all_eq_true, Function.comp]
    exact fun d hm => isDigit_digitByte d (hd.lt d hm)
  · by_cases hn : n < 10
    · left; rw [hd.one hn]; rfl
    · right
      have := (hd.lead (by omega)).1
      cases he : digits n with
      | nil => exact absurd he hd.ne
      | cons d ds =>
        rw [he] at this
        simp only [List.head?_cons, ne_eq, Option.some.injEq] at this
        simp only [List.map_cons, List.head?_cons, ne_eq, Option.some.injEq]
        rw [digitByte_eq_48 d (hd.lt d (by simp [he]))]
        exact this
  · cases he : digits n with
    | nil => exact absurd he hd.ne
    | cons d ds =>
      simp only [List.map_cons, List.head?_cons, ne_eq, Option.some.injEq]
      exact digitByte_ne (hd.lt d (by simp [he])) (by decide)
  · intro he
    by_cases hn : n < 10
    · rw [hd.one hn] at he
      simp only [List.map_cons, List.map_nil, List.cons.injEq, and_true] at he
      exact (digitByte_eq_48 n hn).mp he
    · have := (hd.lead (by omega)).2
      have hl := congrArg List.length he
      simp at hl; omega

theorem intText_wf (i : Int) : newline ∉ intText i := by
  have nat : ∀ n, newline ∉ natText n := by
    intro n h
    obtain ⟨d, hd, he⟩ := List.mem_map.mp (natText_eq n ▸ h)
    exact digitByte_ne ((digits_spec n).lt d hd) (by decide) he
  cases i with
  | ofNat n => exact nat n
  | negSucc n =>
    intro h
    rcases List.mem_cons.mp h with h | h
    · exact absurd h (by decide)
    · exact nat _ h

theorem parseDecimal_intText (i : Int) : parseDecimal (intText i) = some i := by
  cases i with
  | ofNat n =>
    obtain ⟨h1, h2, h3, h4, _⟩ := natText_canon n
    simp only [intText]
    cases ht : natText n with
    | nil => exact absurd ht h1
    | cons c ds =>
      have hc : c ≠ minus := by rw [ht] at h4; simpa using h4
      have hp := parseNat_natText n
      rw [ht] at h2 h3 hp
      simp only [parseDecimal, if_neg hc]
      have hcanon : (!(c :: ds).isEmpty && (c :: ds).all isDigit && (decide ((c :: ds).length = 1) || (c :: ds).head? != some 48)) = true := by
        simp only [List.isEmpty_cons, Bool.not_false, Bool.true_and, h2]
        rcases h3 with h3 | h3
        · simp [h3]
        · simp only [Bool.or_eq_true, decide_eq_true_eq, bne_iff_ne]; exact Or.inr h3
      rw [if_pos hcanon, hp]
  | negSucc n =>
    obtain ⟨h1, h2, h3, _, h5⟩ := natText_canon (n + 1)
    have hp := parseNat_natText (n + 1)
    simp only [intText, parseDecimal, if_true]
    have hne : natText (n + 1) ≠ [48] := fun he => by have := h5 he; omega
    have hcanon : (!(natText (n + 1)).isEmpty && (natText (n + 1)).all isDigit && (decide ((natText (n + 1)).length = 1) || (natText (n + 1)).head? != some 48) && (natText (n + 1) != [48])) = true := by
      simp only [h2, Bool.and_true, Bool.and_eq_true, Bool.not_eq_true', List.isEmpty_eq_false_iff, bne_iff_ne, Bool.or_eq_true, decide_eq_true_eq]
      exact ⟨⟨h1, h3⟩, hne⟩
    rw [if_pos hcanon, hp]
    rfl

end Dawn.Pickle
