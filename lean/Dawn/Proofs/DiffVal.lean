import Dawn.Model.Diff
/-!
C16: Starlark values: structural equality, `EqualDepth` one level at a time, nesting depth.

`Val.beq`, `equalDepth` and the like are defined by overlapping patterns with a catch-all: their cases are taken
here by `rfl` on constructors, since rewriting with their equation lemmas is slow to check.
-/
namespace Dawn.Diff

mutual
theorem Val.beq_refl : ∀ a : Val, a.beq a = true
  | .none => rfl
  | .bool b => beq_self_eq_true b
  | .int i => beq_self_eq_true i
  | .str s => beq_self_eq_true s
  | .bytes s => beq_self_eq_true s
  | .tuple xs => Val.beqList_refl xs
  | .list xs => Val.beqList_refl xs
  | .dict kvs => Val.beqPairs_refl kvs
theorem Val.beqList_refl : ∀ xs : List Val, Val.beqList xs xs = true
  | [] => rfl
  | x :: xs => Bool.and_eq_true_iff.mpr ⟨Val.beq_refl x, Val.beqList_refl xs⟩
theorem Val.beqPairs_refl : ∀ xs : List (Val × Val), Val.beqPairs xs xs = true
  | [] => rfl
  | (k, v) :: xs =>
    Bool.and_eq_true_iff.mpr ⟨Bool.and_eq_true_iff.mpr ⟨Val.beq_refl k, Val.beq_refl v⟩, Val.beqPairs_refl xs⟩
end

mutual
theorem Val.eq_of_beq : ∀ a b : Val, a.beq b = true → a = b
  | .none, b => by
    cases b with
    | none => exact fun _ => rfl
    | _ => exact Bool.false_ne_true.elim
  | .bool _, b => by
    cases b with
    | bool _ => exact fun h => congrArg Val.bool (LawfulBEq.eq_of_beq h)
    | _ => exact Bool.false_ne_true.elim
  | .int _, b => by
    cases b with
    | int _ => exact fun h => congrArg Val.int (LawfulBEq.eq_of_beq h)
    | _ => exact Bool.false_ne_true.elim
  | .str _, b => by
    cases b with
    | str _ => exact fun h => congrArg Val.str (LawfulBEq.eq_of_beq h)
    | _ => exact Bool.false_ne_true.elim
  | .bytes _, b => by
    cases b with
    | bytes _ => exact fun h => congrArg Val.bytes (LawfulBEq.eq_of_beq h)
    | _ => exact Bool.false_ne_true.elim
  | .tuple xs, b => by
    cases b with
    | tuple ys => exact fun h => congrArg Val.tuple (Val.eqList_of_beq xs ys h)
    | _ => exact Bool.false_ne_true.elim
  | .list xs, b => by
    cases b with
    | list ys => exact fun h => congrArg Val.list (Val.eqList_of_beq xs ys h)
    | _ => exact Bool.false_ne_true.elim
  | .dict xs, b => by
    cases b with
    | dict ys => exact fun h => congrArg Val.dict (Val.eqPairs_of_beq xs ys h)
    | _ => exact Bool.false_ne_true.elim
theorem Val.eqList_of_beq : ∀ xs ys : List Val, Val.beqList xs ys = true → xs = ys
  | [], [], _ => rfl
  | [], _ :: _, h => Bool.false_ne_true.elim h
  | _ :: _, [], h => Bool.false_ne_true.elim h
  | x :: xs, y :: ys, h =>
    have ⟨h1, h2⟩ := Bool.and_eq_true_iff.mp h
    congr (congrArg _ (Val.eq_of_beq x y h1)) (Val.eqList_of_beq xs ys h2)
theorem Val.eqPairs_of_beq : ∀ xs ys : List (Val × Val), Val.beqPairs xs ys = true → xs = ys
  | [], [], _ => rfl
  | [], _ :: _, h => Bool.false_ne_true.elim h
  | _ :: _, [], h => Bool.false_ne_true.elim h
  | (k, v) :: xs, (k', v') :: ys, h =>
    have ⟨h12, h3⟩ := Bool.and_eq_true_iff.mp h
    have ⟨h1, h2⟩ := Bool.and_eq_true_iff.mp h12
    congr (congrArg _ (congr (congrArg _ (Val.eq_of_beq k k' h1)) (Val.eq_of_beq v v' h2)))
      (Val.eqPairs_of_beq xs ys h3)
end

theorem Val.beq_iff_eq (a b : Val) : a.beq b = true ↔ a = b :=
  ⟨Val.eq_of_beq a b, fun h => h ▸ Val.beq_refl a⟩

theorem Val.beq_eq_false_iff {a b : Val} : a.beq b = false ↔ a ≠ b := by
  rw [← Bool.not_eq_true, Val.beq_iff_eq]

instance : DecidableEq Val := fun a b =>
  if h : a.beq b = true then isTrue ((Val.beq_iff_eq a b).mp h)
  else isFalse fun e => h ((Val.beq_iff_eq a b).mpr e)

theorem lookup_eq_none_iff (k : Val) (kvs : List (Val × Val)) : lookup k kvs = none ↔ ∀ e ∈ kvs, e.1 ≠ k := by
  induction kvs with
  | nil => exact ⟨fun _ _ h => (nomatch h), fun _ => rfl⟩
  | cons e kvs ih =>
    obtain ⟨k', v⟩ := e
    rw [List.forall_mem_cons, ← ih, lookup]
    cases hb : k.beq k'
    · exact ⟨fun h => ⟨fun e => Val.beq_eq_false_iff.mp hb e.symm, h⟩, And.right⟩
    · exact ⟨nofun, fun h => absurd ((Val.beq_iff_eq k k').mp hb).symm h.1⟩

theorem lookup_cons_self (k v : Val) (kvs : List (Val × Val)) : lookup k ((k, v) :: kvs) = some v := by
  rw [lookup, Val.beq_refl]; rfl

theorem lookup_cons_ne {k k0 : Val} (h : k ≠ k0) (v : Val) (kvs : List (Val × Val)) :
    lookup k ((k0, v) :: kvs) = lookup k kvs := by
  rw [lookup, Val.beq_eq_false_iff.mpr h]; rfl

theorem lookup_mem {k v : Val} {kvs : List (Val × Val)} (h : lookup k kvs = some v) : (k, v) ∈ kvs := by
  induction kvs with
  | nil => exact nomatch h
  | cons e es ih =>
    obtain ⟨k', v'⟩ := e
    rw [lookup] at h
    split at h
    · next hb => cases h; cases (Val.beq_iff_eq k k').mp hb; exact List.mem_cons_self
    · exact List.mem_cons_of_mem _ (ih h)

theorem Val.height_pos (a : Val) : 1 ≤ a.height := by
  cases a
  case tuple | list | dict => exact Nat.le_add_right 1 _
  all_goals exact Nat.le_refl 1

theorem mem_heightList {x : Val} {xs : List Val} (h : x ∈ xs) : x.height ≤ Val.heightList xs := by
  induction xs with
  | nil => exact nomatch h
  | cons y ys ih =>
    rcases List.mem_cons.mp h with rfl | h
    · exact Nat.le_max_left ..
    · exact Nat.le_trans (ih h) (Nat.le_max_right ..)

theorem mem_heightPairs {k v : Val} {kvs : List (Val × Val)} (h : (k, v) ∈ kvs) : v.height ≤ Val.heightPairs kvs := by
  induction kvs with
  | nil => exact nomatch h
  | cons e es ih =>
    rcases List.mem_cons.mp h with rfl | h
    · exact Nat.le_max_left ..
    · exact Nat.le_trans (ih h) (Nat.le_max_right ..)

/-- the elements of a sequence are less deep than the sequence, except that indexing a string or bytes gives
a string or bytes again -/
theorem elems_height {a : Val} {xs : List Val} (h : a.elems? = some xs) {x : Val} (hx : x ∈ xs) :
    (a.indexReturnsSlice = true ∧ x.height = 1) ∨ (a.indexReturnsSlice = false ∧ x.height + 1 ≤ a.height) := by
  cases a with
  | str s | bytes s =>
    obtain rfl := Option.some.inj h
    obtain ⟨c, _, rfl⟩ := List.mem_map.mp hx
    exact .inl ⟨rfl, rfl⟩
  | tuple ys | list ys =>
    obtain rfl := Option.some.inj h
    exact .inr ⟨rfl, Nat.add_comm .. ▸ Nat.add_le_add_left (mem_heightList hx) 1⟩
  | _ => exact nomatch h

/-- `EqualDepth` one level: two tuples, two lists or two dicts compare their lengths and then their elements one
level down; every other pair is answered at once, by structural equality. -/
theorem equalDepth_succ (d : Nat) (a b : Val) :
    (∃ xs ys, (a = .tuple xs ∧ b = .tuple ys ∨ a = .list xs ∧ b = .list ys) ∧
      equalDepth (d + 1) a b = if xs.length ≠ ys.length then .ok false else allEqWith (equalDepth d) xs ys) ∨
    (∃ xs ys, a = .dict xs ∧ b = .dict ys ∧
      equalDepth (d + 1) a b = if xs.length ≠ ys.length then .ok false else dictEqWith (equalDepth d) ys xs) ∨
    equalDepth (d + 1) a b = .ok (a.beq b) := by
  cases a <;> cases b <;> try exact .inr (.inr rfl)
  · exact .inl ⟨_, _, .inl ⟨rfl, rfl⟩, rfl⟩
  · exact .inl ⟨_, _, .inr ⟨rfl, rfl⟩, rfl⟩
  · exact .inr (.inl ⟨_, _, rfl, rfl, rfl⟩)

theorem allEqWith_total (f : Val → Val → Except Err Bool) (xs : List Val) :
    ∀ ys : List Val, (∀ x ∈ xs, ∀ y, ∃ r, f x y = .ok r) → ∃ r, allEqWith f xs ys = .ok r := by
  induction xs with
  | nil => exact fun _ _ => ⟨true, rfl⟩
  | cons x xs ih =>
    intro ys h
    cases ys with
    | nil => exact ⟨true, rfl⟩
    | cons y ys =>
      obtain ⟨r, hr⟩ := h x List.mem_cons_self y
      rw [allEqWith, hr]
      cases r with
      | false => exact ⟨false, rfl⟩
      | true => exact ih ys fun x' hx' => h x' (List.mem_cons_of_mem _ hx')

theorem dictEqWith_total (f : Val → Val → Except Err Bool) (ys : List (Val × Val)) (xs : List (Val × Val)) :
    (∀ e ∈ xs, ∀ y, ∃ r, f e.2 y = .ok r) → ∃ r, dictEqWith f ys xs = .ok r := by
  induction xs with
  | nil => exact fun _ => ⟨true, rfl⟩
  | cons e xs ih =>
    intro h
    obtain ⟨k, xv⟩ := e
    rw [dictEqWith]
    cases lookup k ys with
    | none => exact ⟨false, rfl⟩
    | some yv =>
      obtain ⟨r, hr⟩ := h (k, xv) List.mem_cons_self yv
      simp only [hr]
      cases r with
      | false => exact ⟨false, rfl⟩
      | true => exact ih fun e' he' => h e' (List.mem_cons_of_mem _ he')

theorem equalDepth_total (d : Nat) : ∀ (a b : Val), a.height ≤ d → ∃ r, equalDepth d a b = .ok r := by
  induction d with
  | zero => intro a _ h; have := a.height_pos; omega
  | succ d ih =>
    intro a b h
    rcases equalDepth_succ d a b with ⟨xs, ys, hab, he⟩ | ⟨xs, ys, rfl, rfl, he⟩ | he <;> rw [he]
    · split
      · exact ⟨_, rfl⟩
      · refine allEqWith_total _ xs ys fun x hx y => ih x y ?_
        have := mem_heightList hx
        have h : 1 + Val.heightList xs ≤ d + 1 := by rcases hab with ⟨rfl, _⟩ | ⟨rfl, _⟩ <;> exact h
        omega
    · split
      · exact ⟨_, rfl⟩
      · refine dictEqWith_total _ ys xs fun e he y => ih e.2 y ?_
        have := mem_heightPairs he
        have h : 1 + Val.heightPairs xs ≤ d + 1 := h
        omega
    · exact ⟨_, rfl⟩

mutual
/-- no dict anywhere inside -/
def Val.dictFree : Val → Bool
  | .none => true
  | .bool _ => true
  | .int _ => true
  | .str _ => true
  | .bytes _ => true
  | .tuple xs => Val.dictFreeList xs
  | .list xs => Val.dictFreeList xs
  | .dict _ => false
def Val.dictFreeList : List Val → Bool
  | [] => true
  | x :: xs => x.dictFree && Val.dictFreeList xs
end

theorem dictFreeList_mem {x : Val} {xs : List Val} (h : Val.dictFreeList xs = true) (hx : x ∈ xs) : x.dictFree = true := by
  induction xs with
  | nil => exact nomatch hx
  | cons y ys ih =>
    have h := Bool.and_eq_true_iff.mp h
    rcases List.mem_cons.mp hx with rfl | hx
    · exact h.1
    · exact ih h.2 hx

theorem allEqWith_beq (f : Val → Val → Except Err Bool) (xs : List Val) : ∀ ys : List Val,
    xs.length = ys.length → (∀ x ∈ xs, ∀ y, f x y = .ok (x.beq y)) → allEqWith f xs ys = .ok (Val.beqList xs ys) := by
  induction xs with
  | nil => intro ys hl _; cases ys with | nil => rfl | cons => exact nomatch hl
  | cons x xs ih =>
    intro ys hl h
    cases ys with
    | nil => exact nomatch hl
    | cons y ys =>
      rw [allEqWith, h x List.mem_cons_self y, Val.beqList]
      cases x.beq y with
      | false => rfl
      | true => exact ih ys (Nat.succ.inj hl) fun x' hx' => h x' (List.mem_cons_of_mem _ hx')

theorem equalDepth_dictFree (d : Nat) : ∀ (a b : Val), a.dictFree = true → a.height ≤ d →
    equalDepth d a b = .ok (a.beq b) := by
  induction d with
  | zero => intro a _ _ h; have := a.height_pos; omega
  | succ d ih =>
    intro a b hf hh
    rcases equalDepth_succ d a b with ⟨xs, ys, hab, he⟩ | ⟨xs, ys, rfl, rfl, he⟩ | he
    · -- tuples and lists alike
      have ⟨hb, hf, hh⟩ : a.beq b = Val.beqList xs ys ∧ Val.dictFreeList xs = true ∧ 1 + Val.heightList xs ≤ d + 1 := by
        rcases hab with ⟨rfl, rfl⟩ | ⟨rfl, rfl⟩ <;> exact ⟨rfl, hf, hh⟩
      rw [he, hb]
      split
      · next hne =>
        cases hb : Val.beqList xs ys with
        | false => rfl
        | true => exact absurd (congrArg List.length (Val.eqList_of_beq xs ys hb)) hne
      · next hl =>
        refine allEqWith_beq _ xs ys (Decidable.of_not_not hl) fun x hx y => ih x y (dictFreeList_mem hf hx) ?_
        have := mem_heightList hx
        omega
    · exact nomatch hf
    · exact he

end Dawn.Diff
