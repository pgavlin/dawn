import Dawn.Proofs.MvsDowngradeClosure
import Std.Data.String.ToNat
/-!
# Fuel sufficiency of the requirement edits (C11 as total correctness)

In a finite universe `U` of modules closed under requirements the stack machines of `mvs.ReqList` (`postorder`, `markHave`,
`selectMin`) and of `mvs.Downgrade`'s `add` never answer `Err.fuel` once the fuel reaches an explicit bound in `|U|` and
the number of requirement edges. Each is a traversal that expands a module at most once, so the argument is the same:
the fuel covers the work on the stack plus the weight of every module of `U` not seen yet (`unmarked`), and every step
lowers that sum. (`explore`: `buildListWith_fuel`; the loop `for excluded[r]`: `stepDown_terminates_on`.)
On top of the machines: the operations of dawn answer, and what they answer stays in `U` (`Answers`, `Within`).
-/
namespace Dawn.Mvs

theorem sum_map_le {α : Type} (w w' : α → Nat) (l : List α) (h : ∀ x ∈ l, w x ≤ w' x) :
    (l.map w).sum ≤ (l.map w').sum := by
  induction l with
  | nil => exact Nat.le_refl _
  | cons x xs ih =>
    have := ih fun y hy => h y (List.mem_cons_of_mem _ hy)
    have := h x List.mem_cons_self
    simp only [List.map_cons, List.sum_cons]; omega

def unmarked (w : Mod → Nat) (U seen : List Mod) : Nat := restWeight w (fun n => decide (n ∈ seen)) U

theorem unmarked_le_total (w : Mod → Nat) (U seen : List Mod) : unmarked w U seen ≤ (U.map w).sum := restWeight_le w _ U

theorem unmarked_cons_le (w : Mod → Nat) (U seen : List Mod) (n : Mod) : unmarked w U (n :: seen) ≤ unmarked w U seen :=
  restWeight_mono w (fun x hx => by simp only [decide_eq_true_eq] at hx ⊢; exact List.mem_cons_of_mem _ hx) U

theorem unmarked_cons (w : Mod → Nat) (seen : List Mod) (n : Mod) (hn : n ∉ seen) (U : List Mod) (hU : n ∈ U) :
    unmarked w U (n :: seen) + w n ≤ unmarked w U seen :=
  restWeight_mark w (by simpa using hn) (by simp)
    (fun x hx => by simp only [decide_eq_true_eq] at hx ⊢; exact List.mem_cons_of_mem _ hx) U hU

def ReqClosed (rq : Reqs) (U : List Mod) : Prop := ∀ n ∈ U, ∀ l, rq.required n = some l → ∀ m ∈ l, m ∈ U

/-- number of requirements of a module (0 when they cannot be loaded) -/
def deg (rq : Reqs) (n : Mod) : Nat := ((rq.required n).getD []).length

theorem deg_eq {rq : Reqs} {n : Mod} {l : List Mod} (h : rq.required n = some l) : deg rq n = l.length := by
  simp [deg, h]

def framesWork (stk : List Frame) : Nat := (stk.map fun fr => 1 + fr.rest.length).sum

theorem framesWork_cons (m : Mod) (rest : List Mod) (stk : List Frame) :
    framesWork (⟨m, rest⟩ :: stk) = 1 + rest.length + framesWork stk := rfl

/-- the first walk of `ReqList` never runs out of fuel once the fuel covers one step per frame and pending child plus, for
every module of the universe not cached yet, the steps its own frame will take -/
theorem postorder_fuel (rq : Reqs) (U : List Mod)
    (hU : ReqClosed rq U) :
    ∀ (f : Nat) (stk : List Frame) (cache : List (Mod × List Mod)) (post : List Mod),
      (∀ fr ∈ stk, ∀ c ∈ fr.rest, c ∈ U) →
      framesWork stk + unmarked (fun n => 2 + deg rq n) U (cache.map (·.1)) ≤ f →
      postorder rq f stk cache post ≠ .error .fuel
  | _, [], _, _, _, _ => by simp [postorder_nil]
  | 0, ⟨_, _⟩ :: stk, _, _, _, hle => by rw [framesWork_cons] at hle; omega
  | f + 1, ⟨m, []⟩ :: stk, cache, post, hin, hle => by
    rw [postorder_pop]
    rw [framesWork_cons] at hle
    exact postorder_fuel rq U hU f stk cache _ (List.forall_mem_cons.mp hin).2 (by omega)
  | f + 1, ⟨m, c :: cs⟩ :: stk, cache, post, hin, hle => by
    obtain ⟨hm, hstk⟩ := List.forall_mem_cons.mp hin
    obtain ⟨hc, hcs⟩ := List.forall_mem_cons.mp hm
    have hrest : ∀ fr ∈ (⟨m, cs⟩ : Frame) :: stk, ∀ x ∈ fr.rest, x ∈ U := List.forall_mem_cons.mpr ⟨hcs, hstk⟩
    simp only [framesWork_cons, List.length_cons] at hle
    rw [postorder_child]
    split
    · exact postorder_fuel rq U hU f _ _ _ hrest (by rw [framesWork_cons]; omega)
    · next hnew =>
      cases hr : rq.required c with
      | none => simp
      | some req =>
        refine postorder_fuel rq U hU f _ _ _ (List.forall_mem_cons.mpr ⟨hU c hc req hr, hrest⟩) ?_
        have hmark := unmarked_cons (fun n => 2 + deg rq n) (cache.map (·.1)) c
          (fun h => hnew ((any_fst_iff cache c).mpr (List.mem_map.mp h))) U hc
        rw [deg_eq hr] at hmark
        simp only [framesWork_cons, List.map_cons]
        omega

/-- the second walk never runs out of fuel once the fuel covers one step per pending module and, for every module of the
universe not marked yet, one step to mark it plus one to pop each requirement it pushes -/
theorem markHave_fuel (cache : List (Mod × List Mod)) (U : List Mod)
    (hU : ∀ n ∈ U, ∀ m ∈ cached cache n, m ∈ U) :
    ∀ (f : Nat) (todo hv : List Mod), (∀ n ∈ todo, n ∈ U) →
      todo.length + unmarked (fun n => 1 + (cached cache n).length) U hv ≤ f →
      (markHave cache f todo hv).isSome
  | _, [], _, _, _ => by simp [markHave_nil]
  | 0, _ :: _, _, _, hle => by simp at hle
  | f + 1, n :: t, hv, hin, hle => by
    obtain ⟨hn, ht⟩ := List.forall_mem_cons.mp hin
    rw [List.length_cons] at hle
    rw [markHave_cons]
    split
    · exact markHave_fuel cache U hU f t hv ht (by omega)
    · next hnew =>
      have hmark := unmarked_cons (fun n => 1 + (cached cache n).length) hv n hnew U hn
      refine markHave_fuel cache U hU f _ _ (fun m hm => ?_) (by rw [List.length_append]; omega)
      exact (List.mem_append.mp hm).elim (hU n hn m) (ht m)

theorem selectMin_fuel (fuel : Nat) (cache : List (Mod × List Mod)) (maxv : Sel) (U : List Mod)
    (hU : ∀ n ∈ U, ∀ m ∈ cached cache n, m ∈ U)
    (hf : 1 + (U.map fun n => 1 + (cached cache n).length).sum ≤ fuel) :
    ∀ (l hv min : List Mod), (∀ m ∈ l, m ∈ U) → (selectMin fuel cache maxv l hv min).isSome := by
  intro l
  induction l with
  | nil => intro _ _ _; rfl
  | cons m rest ih =>
    intro hv min hl
    obtain ⟨hm, hrest⟩ := List.forall_mem_cons.mp hl
    rw [selectMin_cons]
    split
    · exact ih _ _ hrest
    · split
      · exact ih _ _ hrest
      · have hsome := markHave_fuel cache U hU fuel [m] hv (by simpa using hm)
          (by have := unmarked_le_total (fun n => 1 + (cached cache n).length) U hv
              rw [List.length_singleton]; omega)
        split
        · next h => rw [h] at hsome; cases hsome
        · exact ih _ _ hrest

theorem reqList_fuel (rq : Reqs) (main : Mod) (list U : List Mod) (hmain : main ∈ U) (hlist : ∀ m ∈ list, m ∈ U)
    (hU : ReqClosed rq U) (fuel : Nat)
    (hf : 1 + list.length + (U.map fun n => 2 + deg rq n).sum ≤ fuel) :
    reqList fuel rq main list ≠ .error .fuel := by
  unfold reqList
  have hpo := postorder_fuel rq U hU fuel [⟨main, list⟩] [(main, [])] [] (by simpa using hlist)
    (by have := unmarked_le_total (fun n => 2 + deg rq n) U [main]
        show 1 + list.length + 0 + unmarked _ U [main] ≤ fuel
        omega)
  split
  · next e he => intro h; cases h; exact hpo he
  · next cache post hp =>
    have ps := postorder_spec rq fuel _ _ _ cache post hp
    have hcached : ∀ n, cached cache n = [] ∨ rq.required n = some (cached cache n) := fun n =>
      (cached_cases ps n).imp id And.right
    have hUc : ∀ n ∈ U, ∀ m ∈ cached cache n, m ∈ U := fun n hn m hm =>
      (hcached n).elim (fun h => by rw [h] at hm; cases hm) (fun h => hU n hn _ h m hm)
    have hlen : ∀ n ∈ U, 1 + (cached cache n).length ≤ 2 + deg rq n := fun n _ =>
      (hcached n).elim (fun h => by rw [h, List.length_nil]; omega) (fun h => by rw [deg_eq h]; omega)
    have hpostU : ∀ m ∈ post.filter (· ≠ main), m ∈ U := fun m hm =>
      ps.prov (· ∈ U) (by simpa using ⟨hmain, hlist⟩) (fun _ h => nomatch h)
        (fun a r b ha _ hr hb => hU a ha r hr b hb) m (List.mem_filter.mp hm).1
    have hsel := selectMin_fuel fuel cache (listMap list) U hUc
      (by have := sum_map_le _ _ U hlen; omega) (post.filter (· ≠ main)) [] [] hpostU
    split
    · next hs => rw [hs] at hsel; cases hsel
    · simp

def aframesWork (stk : List AFrame) : Nat :=
  (stk.map fun fr => 1 + 2 * fr.rest.length + (if fr.pending.isSome then 1 else 0)).sum

theorem aframesWork_cons (m : Mod) (p : Option Mod) (rest : List Mod) (stk : List AFrame) :
    aframesWork (⟨m, p, rest⟩ :: stk) = 1 + 2 * rest.length + (if p.isSome then 1 else 0) + aframesWork stk := rfl

/-- the recursion of `add` never runs out of fuel once the fuel covers the open frames and, for every module of the
universe not added yet, the steps its own frame will take: three for the frame itself (it is entered from a pending slot,
which is then answered, and it is popped) and two per requirement (the call and its answer) — the weights of `aframesWork` -/
theorem addRun_fuel (rq : Reqs) (maxv : Sel) (U : List Mod)
    (hU : ReqClosed rq U) :
    ∀ (f : Nat) (stk : List AFrame) (st : DState), (∀ fr ∈ stk, ∀ c ∈ fr.rest, c ∈ U) →
      aframesWork stk + unmarked (fun n => 3 + 2 * deg rq n) U st.added ≤ f →
      (addRun rq maxv f stk st).isSome
  | _, [], _, _, _ => by simp [addRun_nil]
  | 0, ⟨_, _, _⟩ :: stk, _, _, hle => by rw [aframesWork_cons] at hle; omega
  | f + 1, ⟨m, some r, rs⟩ :: stk, st, hin, hle => by
    obtain ⟨hm, hstk⟩ := List.forall_mem_cons.mp hin
    simp only [aframesWork_cons, Option.isSome_some, ↓reduceIte] at hle
    rw [addRun_ret]
    split
    · exact addRun_fuel rq maxv U hU f stk _ hstk (by rw [(exclude_spec st m).1]; omega)
    · exact addRun_fuel rq maxv U hU f _ _ (List.forall_mem_cons.mpr ⟨hm, hstk⟩)
        (by simp only [aframesWork_cons, Option.isSome_none, Bool.false_eq_true, ↓reduceIte]; omega)
  | f + 1, ⟨m, .none, []⟩ :: stk, st, hin, hle => by
    rw [aframesWork_cons] at hle
    rw [addRun_pop]
    exact addRun_fuel rq maxv U hU f stk st (List.forall_mem_cons.mp hin).2 (by omega)
  | f + 1, ⟨m, .none, r :: rs⟩ :: stk, st, hin, hle => by
    obtain ⟨hm, hstk⟩ := List.forall_mem_cons.mp hin
    obtain ⟨hr, hrs⟩ := List.forall_mem_cons.mp hm
    have hrest : ∀ fr ∈ (⟨m, some r, rs⟩ : AFrame) :: stk, ∀ c ∈ fr.rest, c ∈ U := List.forall_mem_cons.mpr ⟨hrs, hstk⟩
    simp only [aframesWork_cons, List.length_cons, Option.isSome_none, Bool.false_eq_true, ↓reduceIte] at hle
    have hwork : aframesWork ((⟨m, some r, rs⟩ : AFrame) :: stk) = 2 + 2 * rs.length + aframesWork stk := by
      simp only [aframesWork_cons, Option.isSome_some, ↓reduceIte]; omega
    rw [addRun_call]
    rcases addEnter_eq rq maxv st r with ⟨_, heq⟩ | ⟨_, heq⟩ | ⟨hnew, _, l, hl, heq⟩ <;> rw [heq] <;> dsimp only
    · exact addRun_fuel rq maxv U hU f _ _ hrest (by omega)
    · refine addRun_fuel rq maxv U hU f _ _ hrest ?_
      have := unmarked_cons_le (fun n => 3 + 2 * deg rq n) U st.added r
      rw [(exclude_spec _ r).1]
      show _ + unmarked _ U (r :: st.added) ≤ f
      omega
    · refine addRun_fuel rq maxv U hU f _ _ (List.forall_mem_cons.mpr ⟨hU r hr l hl, hrest⟩) ?_
      have hmark := unmarked_cons (fun n => 3 + 2 * deg rq n) st.added r hnew U hr
      rw [deg_eq hl] at hmark
      rw [aframesWork_cons]
      show _ + _ + unmarked _ U (r :: st.added) ≤ f
      simp only [Option.isSome_none, Bool.false_eq_true, ↓reduceIte]
      omega

theorem add_fuel (rq : Reqs) (maxv : Sel) (U : List Mod)
    (hU : ReqClosed rq U) (fuel : Nat)
    (hf : (U.map fun n => 3 + 2 * deg rq n).sum ≤ fuel) (st : DState) (m : Mod) (hm : m ∈ U) :
    (add fuel rq maxv st m).isSome := by
  unfold add
  rcases addEnter_eq rq maxv st m with ⟨_, heq⟩ | ⟨_, heq⟩ | ⟨hnew, _, l, hl, heq⟩ <;> rw [heq]
  · rfl
  · rfl
  · refine addRun_fuel rq maxv U hU fuel _ _ (by simpa using hU m hm l hl) ?_
    have hmark := unmarked_cons (fun n => 3 + 2 * deg rq n) st.added m hnew U hm
    have := unmarked_le_total (fun n => 3 + 2 * deg rq n) U st.added
    rw [deg_eq hl] at hmark
    show 1 + 2 * l.length + 0 + 0 + unmarked _ U (m :: st.added) ≤ fuel
    omega

/-- the operation answers — a list `P` holds of, or an error of its own: it does not run out of fuel -/
def Answers (x : Except Err (List Mod)) (P : List Mod → Prop) : Prop := x ≠ .error .fuel ∧ ∀ l, x = .ok l → P l

def Within (U l : List Mod) : Prop := (∀ m ∈ l, m ∈ U) ∧ l.length ≤ U.length

theorem Answers.bind {x : Except Err (List Mod)} {k : List Mod → Except Err (List Mod)} {P Q : List Mod → Prop}
    (hx : Answers x P) (hk : ∀ l, x = .ok l → P l → Answers (k l) Q) :
    Answers (match (generalizing := false) x with | .error e => .error e | .ok l => k l) Q := by
  cases x with
  | error e => exact ⟨hx.1, fun _ h => nomatch h⟩
  | ok l => exact hk l rfl (hx.2 l rfl)

theorem buildListWith_within {rq : Reqs} {up : Option (Mod → Option Mod)} {t : Mod} {U : List Mod}
    (ht : t ∈ U) (hcl : ∀ n ∈ U, ∀ m ∈ edges rq up n, m ∈ U) {fuel : Nat}
    (hf : 1 + (U.map fun n => 1 + (edges rq up n).length).sum ≤ fuel) :
    Answers (buildListWith fuel rq up t) (Within U) := by
  refine ⟨buildListWith_fuel rq up t U ht hcl fuel hf, fun bl h => ?_⟩
  have hreach : ∀ m, Reach rq up t m → m ∈ U := fun m hr => by
    induction hr with
    | root => exact ht
    | step a b _ hb ih => exact hcl a ih b hb
  have hsub : ∀ m ∈ bl, m ∈ U := fun m hm => hreach m (reach_of_mem_buildList h hm)
  exact ⟨hsub, (nodup_of_nodup_paths (buildListWith_nodup h)).length_le_of_subset hsub⟩

/-- an operation that answers within the universe, followed by `ReqList` — the shape of every edit -/
theorem Answers.then_reqList {x : Except Err (List Mod)} {rq : Reqs} {main : Mod} {U : List Mod} (hx : Answers x (Within U))
    (hmain : main ∈ U) (hU : ReqClosed rq U) {fuel : Nat}
    (hf : 1 + U.length + (U.map fun n => 2 + deg rq n).sum ≤ fuel) :
    (match (generalizing := false) x with
      | .error e => (.error e : Except Err (List Mod))
      | .ok bl => reqList fuel rq main bl) ≠ .error .fuel := by
  cases x with
  | error e => exact hx.1
  | ok bl => exact reqList_fuel rq main bl U hmain (hx.2 bl rfl).1 hU fuel (by have := (hx.2 bl rfl).2; omega)

theorem edges_plain_subset (rq : Reqs) (U : List Mod) (hU : ReqClosed rq U) :
    ∀ n ∈ U, ∀ m ∈ edges rq .none n, m ∈ U := fun n hn m hm => by
  obtain ⟨_, r, hr, hmr⟩ := (mem_edges_plain rq n m).mp hm
  exact hU n hn r hr m hmr

theorem edges_plain_length_le (rq : Reqs) (n : Mod) : (edges rq .none n).length ≤ deg rq n := by
  rw [edges_plain]; split
  · exact Nat.le_refl _
  · simp

theorem plain_work_le (rq : Reqs) (U : List Mod) :
    (U.map fun n => 1 + (edges rq .none n).length).sum ≤ (U.map fun n => 2 + deg rq n).sum :=
  sum_map_le _ _ U fun n _ => by have := edges_plain_length_le rq n; omega

theorem edges_length_le (rq : Reqs) (up : Option (Mod → Option Mod)) (n : Mod) : (edges rq up n).length ≤ 1 + deg rq n := by
  have h0 := edges_plain_length_le rq n
  cases up with
  | none => omega
  | some f =>
    rw [edges_up, List.length_append]
    split
    · split <;> simp <;> omega
    · simp; omega

theorem candidate_injective (name : String) {j k : Nat} (h : candidate name j = candidate name k) : j = k := by
  have hne : ∀ i, i ≠ 0 → name ≠ name ++ "-" ++ toString i := by
    intro i _ he
    have h1 : name ++ "" = name ++ ("-" ++ toString i) := by rw [String.append_empty, ← String.append_assoc]; exact he
    have h2 := (String.append_right_inj name).mp h1
    have : ("-" ++ toString i).length = 0 := by rw [← h2]; rfl
    simp [String.length_append] at this
  unfold candidate at h
  by_cases hj : j = 0
  · by_cases hk : k = 0
    · rw [hj, hk]
    · simp only [hj, hk, ↓reduceIte] at h
      exact absurd h (hne k hk)
  · by_cases hk : k = 0
    · simp only [hj, hk, ↓reduceIte] at h
      exact absurd h.symm (hne j hj)
    · simp only [hj, hk, ↓reduceIte] at h
      have h1 := (String.append_right_inj (name ++ "-")).mp h
      exact Nat.repr_inj.mp h1

theorem freshName_isSome (taken : List String) (name : String) : (freshName taken name).isSome := by
  unfold freshName
  rw [Option.isSome_map]
  cases hf : (List.range (taken.length + 1)).find? (fun k => candidate name k ∉ taken) with
  | some k => rfl
  | none =>
    exfalso
    have hall : ∀ k ∈ List.range (taken.length + 1), candidate name k ∈ taken := by
      intro k hk
      have := List.find?_eq_none.mp hf k hk
      simpa using this
    have hnd : ((List.range (taken.length + 1)).map (candidate name)).Nodup := by
      rw [List.Nodup, List.pairwise_map]
      exact (List.nodup_range (n := taken.length + 1)).imp (fun hne h => hne (candidate_injective name h))
    have hle := hnd.length_le_of_subset (l₂ := taken) (by
      intro s hs
      obtain ⟨k, hk, rfl⟩ := List.mem_map.mp hs
      exact hall k hk)
    simp only [List.length_map, List.length_range] at hle
    omega

theorem nameNew_fuel (e : Env) (old : Config) (vs : List Mod) : ∀ acc : Config, nameNew e old vs acc ≠ .error .fuel := by
  induction vs with
  | nil => intro _ h; cases h
  | cons v vs ih =>
    intro acc
    rw [nameNew]
    split
    · exact ih acc
    · split
      · exact ih acc
      · split
        · exact fun h => nomatch h
        · dsimp only
          split
          · next h => exact absurd h (Option.isSome_iff_ne_none.mp (freshName_isSome _ _))
          · exact ih _

theorem transformReqs_fuel {e : Env} {c : Config} {tx : List Mod → Except Err (List Mod)}
    (h : tx (c.map (·.2)) ≠ .error .fuel) : transformReqs e c tx ≠ .error .fuel := by
  unfold transformReqs
  split
  · next err htx => intro he; cases he; exact h htx
  · next nv _ =>
    dsimp only
    split
    · next err hn => intro he; cases he; exact nameNew_fuel _ _ _ _ hn
    · simp

/-- the fuel bound of `get` in a universe `U`: per module, three steps, one per module of `U` (the overridden requirement
lists of the main module are that long at most) and two per requirement -/
def getBound (rq : Reqs) (U : List Mod) : Nat := 1 + (U.map fun n => 3 + U.length + 2 * deg rq n).sum

theorem sum_map_succ {α : Type} (w : α → Nat) : ∀ l : List α, (l.map fun x => w x + 1).sum = (l.map w).sum + l.length
  | [] => rfl
  | x :: xs => by simp only [List.map_cons, List.sum_cons, List.length_cons, sum_map_succ w xs]; omega

theorem getBound_ge_reqList (rq : Reqs) (U : List Mod) : 1 + U.length + (U.map fun n => 2 + deg rq n).sum ≤ getBound rq U := by
  have := sum_map_le (fun n => 2 + deg rq n + 1) (fun n => 3 + U.length + 2 * deg rq n) U (fun n _ => by omega)
  rw [sum_map_succ] at this
  unfold getBound; omega

theorem getBound_ge_add (rq : Reqs) (U : List Mod) : (U.map fun n => 3 + 2 * deg rq n).sum ≤ getBound rq U := by
  have := sum_map_le (fun n => 3 + 2 * deg rq n) (fun n => 3 + U.length + 2 * deg rq n) U (fun n _ => by omega)
  unfold getBound; omega

theorem buildListWith_override_within (rq : Reqs) (up : Option (Mod → Option Mod)) (t : Mod) (L U : List Mod)
    (ht : t ∈ U) (hL : ∀ m ∈ L, m ∈ U) (hLlen : L.length ≤ U.length + 1 + 2 * deg rq t)
    (hU : ReqClosed rq U)
    (hup : ∀ f, up = some f → ∀ n ∈ U, ∀ m, f n = some m → m ∈ U)
    (fuel : Nat) (hf : getBound rq U ≤ fuel) :
    Answers (buildListWith fuel (override t L rq) up t) (Within U) := by
  have hreq : ∀ n, (override t L rq).required n = if n = t then some L else rq.required n := fun n => rfl
  -- the overridden requirements stay in `U` …
  have hU' : ReqClosed (override t L rq) U := by
    intro n hn l hl
    rw [hreq] at hl
    split at hl
    · cases hl; exact hL
    · exact hU n hn l hl
  have hcl : ∀ n ∈ U, ∀ m ∈ edges (override t L rq) up n, m ∈ U := by
    intro n hn m hm
    cases up with
    | none => exact edges_plain_subset _ U hU' n hn m hm
    | some f =>
      rcases (mem_edges_up _ f n m).mp hm with ⟨hfu, _⟩ | ⟨_, r, hr, hmr⟩
      · exact hup f rfl n hn m hfu
      · exact hU' n hn r hr m hmr
  -- … and the target has at most `|U| + 1 + 2 · deg` of them
  have hdeg : ∀ n, deg (override t L rq) n ≤ U.length + 1 + 2 * deg rq n := by
    intro n
    unfold deg
    rw [hreq]
    split
    · next h => rw [h]; exact hLlen
    · omega
  have := sum_map_le (fun n => 1 + (edges (override t L rq) up n).length) (fun n => 3 + U.length + 2 * deg rq n) U
    (fun n _ => by have := edges_length_le (override t L rq) up n; have := hdeg n; omega)
  exact buildListWith_within ht hcl (by unfold getBound at hf; omega)

theorem buildList_within (rq : Reqs) (t : Mod) (U : List Mod) (ht : t ∈ U)
    (hU : ReqClosed rq U) (fuel : Nat) (hf : 1 + U.length + (U.map fun n => 2 + deg rq n).sum ≤ fuel) :
    Answers (buildList fuel rq t) (Within U) := by
  have := plain_work_le rq U
  exact buildListWith_within ht (edges_plain_subset rq U hU) (by omega)

theorem req_fuel (rq : Reqs) (main : Mod) (U : List Mod) (hmain : main ∈ U)
    (hU : ReqClosed rq U) (fuel : Nat)
    (hf : 1 + U.length + (U.map fun n => 2 + deg rq n).sum ≤ fuel) :
    req fuel rq main ≠ .error .fuel :=
  (buildList_within rq main U hmain hU fuel hf).then_reqList hmain hU hf

theorem downLoop_fuel {fuel : Nat} {rq : Reqs} {prev : Mod → Option Mod} {maxv : Sel} {C : Mod → Prop}
    (hadd : ∀ st r, C r → (add fuel rq maxv st r).isSome)
    (hsd : ∀ st r, C r → stepDown fuel rq prev maxv fuel st r ≠ .error .fuel) :
    ∀ (list : List Mod) (st : DState) (acc : List Mod), (∀ m ∈ list, C m) →
      downLoop fuel rq prev maxv list st acc ≠ .error .fuel := by
  intro list
  induction list with
  | nil => intro _ _ _ h; cases h
  | cons r rest ih =>
    intro st acc hl
    obtain ⟨hr, hrest⟩ := List.forall_mem_cons.mp hl
    rw [downLoop]
    split
    · next h => have := hadd st r hr; rw [h] at this; cases this
    · next st1 _ =>
      split
      · next err hs => intro h; cases h; exact hsd st1 r hr hs
      · exact ih _ _ hrest
      · exact ih _ _ hrest

theorem mvsDowngrade_within (fuel : Nat) (rq : Reqs) (prev : Mod → Option Mod) (t d : Mod) (U : List Mod)
    (ht : t ∈ U) (hd : d ∈ U)
    (hU : ReqClosed rq U)
    (hprev : ∀ r p, r ∈ U → r.path ≠ t.path → prev r = some p → p.ver = .none ∨ (cmpVersion p.ver r.ver = .lt ∧ p ∈ U))
    (hpath : ∀ r p, prev r = some p → p.path = r.path)
    (hf : getBound rq U ≤ fuel) :
    Answers (mvsDowngrade fuel rq prev t d) (Within U) := by
  have hnoup : ∀ f, (Option.none : Option (Mod → Option Mod)) = some f → ∀ n ∈ U, ∀ m, f n = some m → m ∈ U :=
    fun f h => nomatch h
  have hfr := Nat.le_trans (getBound_ge_reqList rq U) hf
  have haddf := Nat.le_trans (getBound_ge_add rq U) hf
  rw [mvsDowngrade_eq]
  refine (buildList_within rq t U ht hU fuel hfr).bind fun full hfull hfullU => ?_
  obtain ⟨htail, hnd⟩ := buildList_tail hfull
  have hlist : ∀ m ∈ full.drop 1, m ∈ U ∧ m.path ≠ t.path := fun m hm => ⟨hfullU.1 m (htail m hm).1, (htail m hm).2⟩
  have hmaxU : ∀ p v, (downMax (full.drop 1) d).lookup p = some v → (⟨p, v⟩ : Mod) ∈ U := by
    intro p v hl
    rcases downMax_lookup_mem _ d hnd p v hl with h1 | h1
    · exact (hlist _ h1).1
    · rw [h1]; exact hd
  -- the candidates of the loop `for excluded[r]`: modules of `U` off the target's path
  have hsd := stepDown_terminates_on (fun r => r ∈ U ∧ r.path ≠ t.path) fuel rq prev (downMax (full.drop 1) d) (U.map (·.ver))
    (fun st p hp => add_fuel rq _ U hU fuel haddf st p hp.1)
    (fun r p hr hp => (hprev r p hr.1 hr.2 hp).imp_right fun h =>
      ⟨List.mem_map.mpr ⟨p, h.2, rfl⟩, h.1, h.2, by rw [hpath r p hp]; exact hr.2⟩)
    (fun p v hl => List.mem_map.mpr ⟨⟨p, v⟩, hmaxU p v hl, rfl⟩)
    (fun r p v hr hp hl => by rw [hpath r p hp]; exact ⟨hmaxU _ _ hl, hr.2⟩) fuel
  have hbelow : ∀ r : Mod, below (U.map (·.ver)) r.ver < fuel := fun r => by
    have : below (U.map (·.ver)) r.ver ≤ (U.map (·.ver)).length := List.length_filter_le _ _
    rw [List.length_map] at this; omega
  have hloop : Answers (downLoop fuel rq prev (downMax (full.drop 1) d) (full.drop 1) ⟨[], [], []⟩ [t])
      fun dg => (∀ m ∈ dg, m ∈ U) ∧ dg.length ≤ U.length + 1 := by
    refine ⟨downLoop_fuel (fun st r hr => add_fuel rq _ U hU fuel haddf st r hr.1)
      (fun st r hr => (hsd st r hr (hbelow r)).1) _ _ _ hlist, fun dg hdg => ?_⟩
    obtain ⟨hmem, hlen⟩ := downLoop_inv (I := fun _ => True) (P := (· ∈ U))
      (fun st r st1 st2 res _ hr _ hs => ⟨trivial, fun r' hr' => ((hsd st1 r hr (hbelow r)).2 st2 r' (hr' ▸ hs)).1⟩)
      _ _ _ _ trivial hlist hdg
    have := hfullU.2
    exact ⟨fun m hm => (hmem m hm).elim (fun h => List.mem_singleton.mp h ▸ ht) id, by
      rw [List.length_drop, List.length_singleton] at hlen; omega⟩
  refine hloop.bind fun downgraded _ hdg => ?_
  refine (buildListWith_override_within rq .none t downgraded U ht hdg.1 (by have := hdg.2; omega) hU hnoup fuel hf).bind
    fun actual hact hactU => ?_
  refine buildListWith_override_within rq .none t _ U ht
    (fun x hx => hactU.1 x (mem_readBack (buildListWith_nodup hact) hx).1) ?_ hU hnoup fuel hf
  have h1 := List.length_filterMap_le (fun m => ((listMap actual).lookup m.path).map fun v => (⟨m.path, v⟩ : Mod)) (full.drop 1)
  have h2 := hfullU.2
  rw [List.length_drop] at h1
  unfold readBack; omega

theorem ite_ne_fuel {α : Type} {c : Prop} [Decidable c] {a b : Except Err α} (ha : a ≠ .error .fuel) (hb : b ≠ .error .fuel) :
    (if c then a else b) ≠ .error .fuel := by
  split <;> assumption

theorem resolveRef_nofuel (e : Env) (path ref : String) : resolveRef e path ref ≠ .error .fuel := by
  unfold resolveRef; split <;> simp

theorem resolveLatest_nofuel (e : Env) (major path : String) : resolveLatest e major path ≠ .error .fuel := by
  unfold resolveLatest
  dsimp only
  split
  · simp
  · split
    · simp
    · exact resolveRef_nofuel e path e.defaultRef

theorem resolveUpgrade_nofuel (e : Env) (bl : List Mod) (major path : String) : resolveUpgrade e bl major path ≠ .error .fuel := by
  unfold resolveUpgrade
  split
  · next err herr => intro h; cases h; exact resolveLatest_nofuel e major path herr
  · split
    · split <;> simp
    · simp

theorem resolvePatch_nofuel (e : Env) (bl : List Mod) (major path : String) : resolvePatch e bl major path ≠ .error .fuel := by
  unfold resolvePatch
  split
  · exact resolveLatest_nofuel _ _ _
  · split <;> simp

theorem resolveRange_nofuel (e : Env) (major path query : String) : resolveRange e major path query ≠ .error .fuel := by
  unfold resolveRange
  split
  · simp
  · split <;> simp

theorem resolveVersionQuery_nofuel (e : Env) (bl : List Mod) (q : VersionQuery) : resolveVersionQuery e bl q ≠ .error .fuel := by
  unfold resolveVersionQuery
  refine ite_ne_fuel (by simp) (ite_ne_fuel (resolveLatest_nofuel _ _ _) (ite_ne_fuel (resolveUpgrade_nofuel _ _ _ _)
    (ite_ne_fuel (resolvePatch_nofuel _ _ _ _) ?_)))
  split
  · exact resolveRange_nofuel _ _ _ _
  · exact resolveRange_nofuel _ _ _ _
  · exact ite_ne_fuel (resolveRange_nofuel _ _ _ _) (resolveRef_nofuel _ _ _)
  · exact resolveRef_nofuel _ _ _

theorem get_fuel (fuel : Nat) (e : Env) (prev : Mod → Option Mod) (roots : List Mod) (vq : VersionQuery) (U : List Mod)
    (hroot : rootMod ∈ U)
    (hU : ReqClosed (dawnReqs e roots) U)
    (hres : ∀ bl version, resolveVersionQuery e bl vq = .ok version → version ∈ U ∧ (⟨version.path, .none⟩ : Mod) ∈ U)
    (hprev : ∀ r p, r ∈ U → r.path ≠ "" → prev r = some p → p.ver = .none ∨ (cmpVersion p.ver r.ver = .lt ∧ p ∈ U))
    (hpath : ∀ r p, prev r = some p → p.path = r.path)
    (hf : getBound (dawnReqs e roots) U ≤ fuel) :
    get fuel e prev roots vq ≠ .error .fuel := by
  have hrootsU : ∀ m ∈ roots, m ∈ U := hU rootMod hroot roots (by simp [dawnReqs, rootMod])
  have hfr := Nat.le_trans (getBound_ge_reqList (dawnReqs e roots) U) hf
  have hbl := (buildList_within (dawnReqs e roots) rootMod U hroot hU fuel hfr).1
  unfold get
  dsimp only
  -- `get` asks for the same build list twice; splitting on the first occurrence settles the second as well
  split
  · next err hb => intro h; cases h; exact hbl hb
  · next bl0 _ =>
    split
    · next err hr => intro h; cases h; exact resolveVersionQuery_nofuel e bl0 vq hr
    · next version hr =>
      obtain ⟨hvU, hvnone⟩ := hres bl0 version hr
      dsimp only
      split
      · simp -- not in the build list: the requirement is added
      · split
        · simp -- already selected
        · -- upgrade
          rw [mvsUpgrade_eq]
          have hL : ∀ m ∈ upList roots version, m ∈ U := fun m hm =>
            (mem_upList hm).elim (hrootsU m) (· ▸ hvnone)
          have hLlen : (upList roots version).length ≤ U.length + 1 + 2 * deg (dawnReqs e roots) rootMod := by
            have : deg (dawnReqs e roots) rootMod = roots.length := by simp [deg, dawnReqs, rootMod]
            unfold upList
            split <;> simp <;> omega
          have hup : ∀ f, some (upFn version) = some f → ∀ n ∈ U, ∀ m, f n = some m → m ∈ U := fun f hf n hn m hm => by
            cases hf
            exact (upFn_cases hm).elim (· ▸ hvU) (· ▸ hn)
          exact (buildListWith_override_within (dawnReqs e roots) (some (upFn version)) rootMod _ U hroot hL hLlen hU
            hup fuel hf).then_reqList hroot hU hfr
        · -- downgrade
          exact (mvsDowngrade_within fuel (dawnReqs e roots) prev rootMod version U hroot hvU hU hprev hpath hf).then_reqList
            hroot hU hfr

end Dawn.Mvs
