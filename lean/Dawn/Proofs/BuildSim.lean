import Dawn.Proofs.Build
/-!
# What a build reads (C02, C03, C13, C14)

Two trees and two persisted states. If the trees agree on the definitions of the visited labels and of what those read
(and on their dependency lists — the generator link included), and the states agree on the files in a set `F` that
covers everything the visited labels read, write or test, and — up to "missing ≡ empty" — on the visited labels'
records, then the two builds take the same decisions, emit the same events and execute the same bodies, and the states
they leave agree again. Everything else — sources, build files of other packages, temporaries, the index, records and
outputs of other targets — may differ arbitrarily.

The case of one tree and all files (`Agree`, `runBuild_sim`) is what makes garbage collection transparent (C14), the
torn index harmless (C03), and a dry run inconsequential (C13).
-/
namespace Dawn.Build

variable {P : Params} {t : Tree} {o : Opts}

structure Agree2 (L : List Label) (F : Path → Prop) (w w' : World) : Prop where
  files : ∀ p, F p → w'.files p = w.files p
  recs : ∀ l ∈ L, semRec (w'.recs l) = semRec (w.recs l)

/-- `F` covers what the labels of `L` test, write and read; and the two trees agree about them -/
structure Covers (t t' : Tree) (L : List Label) (F : Path → Prop) : Prop where
  defs : ∀ l ∈ L, t'.defs l = t.defs l
  deps : ∀ l ∈ L, ∀ d, t.defs l = some d → depsOf t' l d = depsOf t l d
  path : ∀ l ∈ L, ∀ d, t.defs l = some d → d.kind = .src → F d.path
  gens : ∀ l ∈ L, ∀ d, t.defs l = some d → d.kind = .fn → ∀ g ∈ d.gens, F g
  readDefs : ∀ l ∈ L, ∀ d, t.defs l = some d → ∀ x ∈ d.reads, t'.defs x = t.defs x
  readPaths : ∀ l ∈ L, ∀ d, t.defs l = some d → ∀ x ∈ d.reads, ∀ dx, t.defs x = some dx →
    (dx.kind = .src → F dx.path) ∧ (dx.kind = .fn → ∀ g ∈ dx.gens, F g)

structure Sim2 (L : List Label) (F : Path → Prop) (s s' : BSt) : Prop where
  memo : s'.memo = s.memo
  evs : s'.evs = s.evs
  execs : s'.execs = s.execs
  steps : s'.steps = s.steps
  agree : Agree2 L F s.w s'.w

theorem agree2_step {L : List Label} {F : Path → Prop} {w w' : World} (h : Agree2 L F w w') (st : Step) :
    Agree2 L F (st.apply w) (st.apply w') := by
  unfold Step.apply
  cases st.eff with
  | none => exact h
  | some e =>
    cases e with
    | tempRename l r =>
      refine ⟨h.files, fun x hx => ?_⟩
      by_cases e : x = l
      · simp [Eff.apply, e]
      · simpa [Eff.apply, upd, e] using h.recs x hx
    | genWrite g c =>
      refine ⟨fun p hp => ?_, h.recs⟩
      by_cases e : p = g
      · simp [Eff.apply, e]
      · simpa [Eff.apply, upd, e] using h.files p hp
    | _ => exact ⟨h.files, h.recs⟩

theorem agree2_applySteps {L : List Label} {F : Path → Prop} {w w' : World} (h : Agree2 L F w w') (ss : List Step) :
    Agree2 L F (applySteps w ss) (applySteps w' ss) := by
  induction ss generalizing w w' with
  | nil => exact h
  | cons st rest ih => exact ih (agree2_step h st)

/-- one visit: the two sides read the same definition, the same memo, the same record and the same files, hence plan
the same and execute the same -/
theorem visit_sim2 {t t' : Tree} {L : List Label} {F : Path → Prop} {s s' : BSt} (l : Label)
    (hdef : t'.defs l = t.defs l) (hin : (t.defs l).isSome → l ∈ L) (hcov : Covers t t' L F) (h : Sim2 L F s s') :
    Sim2 L F (visit P t o s l) (visit P t' o s' l) := by
  unfold visit
  rw [hdef]
  cases hd : t.defs l with
  | none => exact ⟨by simp [h.memo], h.evs, h.execs, h.steps, h.agree⟩
  | some d =>
    have hl : l ∈ L := hin (by rw [hd]; rfl)
    have hinfo : loadedInfo s'.w l d = loadedInfo s.w l d := by
      rw [loadedInfo_eq, loadedInfo_eq, h.agree.recs l hl]
    have hplan : plan P t' o s' l d = plan P t o s l d := by
      unfold plan memoData
      simp only [h.memo, hcov.deps l hl d hd, hinfo,
        upToDate_files P d _ (fun hk => h.agree.files _ (hcov.path l hl d hd hk))
          (fun hk g hg => h.agree.files g (hcov.gens l hl d hd hk g hg))]
    simp only [hplan]
    cases hp : plan P t o s l d with
    | run info dd =>
      have hexec : execSteps P t' o s'.w l d info dd = execSteps P t o s.w l d info dd := by
        unfold execSteps bodyWrites
        cases hk : d.kind with
        | src => simp only; rw [h.agree.files _ (hcov.path l hl d hd hk)]
        | fn =>
          simp only
          have hobs : (d.reads.map fun x => (x, observe t' s'.w x)) = d.reads.map fun x => (x, observe t s.w x) :=
            List.map_congr_left fun x hx => by
              rw [observe_files x (hcov.readDefs l hl d hd x hx) fun dx hdx =>
                ⟨fun hk => h.agree.files _ ((hcov.readPaths l hl d hd x hx dx hdx).1 hk),
                  fun hk g hg => h.agree.files g ((hcov.readPaths l hl d hd x hx dx hdx).2 hk g hg)⟩]
          rw [hobs]
      simp only [hexec]
      exact ⟨by simp [h.memo], by simp [h.evs], by simp [h.execs], by simp [h.steps], agree2_applySteps h.agree _⟩
    | _ => exact ⟨by simp [h.memo], by simp [h.evs], h.execs, h.steps, h.agree⟩

theorem build_sim2 {t t' : Tree} {L : List Label} {F : Path → Prop} (hcov : Covers t t' L F)
    (ord : List Label) (hdef : ∀ l ∈ ord, t'.defs l = t.defs l) (hL : ∀ l ∈ ord, (t.defs l).isSome → l ∈ L) :
    ∀ {s s' : BSt}, Sim2 L F s s' → Sim2 L F (build P t o s ord) (build P t' o s' ord) := by
  induction ord with
  | nil => exact fun h => h
  | cons l rest ih =>
    exact fun h => ih (fun x hx => hdef x (List.mem_cons_of_mem _ hx)) (fun x hx => hL x (List.mem_cons_of_mem _ hx))
      (visit_sim2 l (hdef l List.mem_cons_self) (hL l List.mem_cons_self) hcov h)

theorem agree2_load {L : List Label} {F : Path → Prop} {w w' : World} (t t' : Tree) (h : Agree2 L F w w') :
    Agree2 L F (load t w) (load t' w') := by
  refine ⟨fun p hp => ?_, fun l hl => ?_⟩
  · rw [(load_sem t' w' 0).2.1, (load_sem t w 0).2.1]; exact h.files p hp
  · rw [(load_sem t' w' l).1, (load_sem t w l).1]; exact h.recs l hl

/-- builds from agreeing states: only the defined labels of the order need to lie in `L`; an undefined label fails the
same way on both sides, whatever its record -/
theorem runBuild_agree {t t' : Tree} {L : List Label} {F : Path → Prop} (hcov : Covers t t' L F)
    (ord : List Label) (hdef : ∀ l ∈ ord, t'.defs l = t.defs l) (hL : ∀ l ∈ ord, (t.defs l).isSome → l ∈ L)
    {w w' : World} (h : Agree2 L F w w') : Sim2 L F (runBuild P t o ord w) (runBuild P t' o ord w') :=
  build_sim2 hcov ord hdef hL ⟨rfl, rfl, rfl, rfl, agree2_load t t' h⟩

theorem runBuild_sim2 {P : Params} {t t' : Tree} {o : Opts} {L : List Label} {F : Path → Prop} (hcov : Covers t t' L F)
    (ord : List Label) (hL : ∀ l ∈ ord, l ∈ L) {w w' : World} (h : Agree2 L F w w') :
    Sim2 L F (runBuild P t o ord w) (runBuild P t' o ord w') :=
  runBuild_agree hcov ord (fun l hl => hcov.defs l (hL l hl)) (fun l hl _ => hL l hl) h

/-! ## one tree, all files -/

structure Agree (L : List Label) (w w' : World) : Prop where
  files : w'.files = w.files
  recs : ∀ l ∈ L, semRec (w'.recs l) = semRec (w.recs l)

structure Sim (L : List Label) (s s' : BSt) : Prop where
  memo : s'.memo = s.memo
  evs : s'.evs = s.evs
  execs : s'.execs = s.execs
  steps : s'.steps = s.steps
  agree : Agree L s.w s'.w

theorem agree_iff_agree2 {L : List Label} {w w' : World} : Agree L w w' ↔ Agree2 L (fun _ => True) w w' :=
  ⟨fun h => ⟨fun p _ => congrFun h.files p, h.recs⟩, fun h => ⟨funext fun p => h.files p trivial, h.recs⟩⟩

theorem covers_self (t : Tree) (L : List Label) : Covers t t L (fun _ => True) :=
  ⟨fun _ _ => rfl, fun _ _ _ _ => rfl, fun _ _ _ _ _ => trivial, fun _ _ _ _ _ _ _ => trivial, fun _ _ _ _ _ _ => rfl,
    fun _ _ _ _ _ _ _ _ => ⟨fun _ => trivial, fun _ _ _ => trivial⟩⟩

/-- builds of the same tree from agreeing states: same events, same executions, same result, agreeing states -/
theorem runBuild_sim {P : Params} {t : Tree} {o : Opts} {L : List Label} (ord : List Label)
    (hL : ∀ l ∈ ord, (t.defs l).isSome → l ∈ L) {w w' : World} (h : Agree L w w') :
    Sim L (runBuild P t o ord w) (runBuild P t o ord w') :=
  let s := runBuild_agree (P := P) (o := o) (covers_self t L) ord (fun _ _ => rfl) hL (agree_iff_agree2.mp h)
  ⟨s.memo, s.evs, s.execs, s.steps, agree_iff_agree2.mpr s.agree⟩

theorem agree_gc (t : Tree) (pi : Bool) (w : World) : Agree (gcLive t pi w) w (gc t pi w) := by
  unfold gc gcLive
  refine ⟨by simp [sweep, (load_sem t w 0).2.1], ?_⟩
  intro l hl
  rw [sweep_recs_live _ _ l hl, (load_sem t w l).1]

theorem agree_mono {L L' : List Label} {w w' : World} (h : Agree L w w') (hs : ∀ l ∈ L', l ∈ L) : Agree L' w w' :=
  ⟨h.files, fun l hl => h.recs l (hs l hl)⟩

end Dawn.Build
