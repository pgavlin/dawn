import Dawn.Proofs.DiffArr
/-!
C16: what the raw edits mean in terms of the old and the new sequence, and the final pass of `compose` that
merges a delete followed by an add into a replace.
-/
namespace Dawn.Diff

section
variable {α δ : Type} (eqb : α → α → Bool)

/-- the two elements were found equal by the comparison (in one or the other argument order) -/
def E (o n : α) : Prop := eqb o n = true ∨ eqb n o = true

/-- what a raw edit of kind `κ` with values `vs` contributes to the old and to the new sequence -/
inductive StepS : Kind → List α → List α → List α → Prop
  | delete (vs : List α) : StepS .delete vs vs []
  | add (vs : List α) : StepS .add vs [] vs
  | common (vs ws : List α) : All2 (E eqb) vs ws → StepS .common vs vs ws

variable {eqb} in
theorem StepS.append {κ : Kind} {vs vs' dO dN dO' dN' : List α} (h : StepS eqb κ vs dO dN)
    (h' : StepS eqb κ vs' dO' dN') : StepS eqb κ (vs ++ vs') (dO ++ dO') (dN ++ dN') := by
  cases h with
  | delete => cases h'; exact .delete _
  | add => cases h'; exact .add _
  | common _ _ hf => cases h' with | common _ _ hf' => exact .common _ _ (hf.append hf')

/-- raw edits, most recent first, account for the old sequence `o` and the new sequence `n` -/
inductive RawS : List (RawEdit α) → List α → List α → Prop
  | nil : RawS [] [] []
  | snoc (e : RawEdit α) (es : List (RawEdit α)) (o n dO dN : List α) :
      RawS es o n → StepS eqb e.kind e.values dO dN → RawS (e :: es) (o ++ dO) (n ++ dN)

variable (elemDiff : α → α → Except Err (Option δ)) (lit : Option (List α → List α → δ))

/-- a replace of the old elements `os` by the new elements `ns`: same number of each, and the entries are what
`diffReplacements` computes for them: one literal diff of the two pieces for strings and bytes, else the diff
of each pair (`None` for a pair of equal elements) -/
def ReplOK (ds : List (Option δ)) (os ns : List α) : Prop :=
  os.length = ns.length ∧ diffReplacements elemDiff lit os ns = .ok ds

/-- what one edit says about the old and the new sequence -/
inductive EditOK : Edit α δ → List α → List α → Prop
  | delete (vs : List α) : EditOK (.delete vs) vs []
  | add (vs : List α) : EditOK (.add vs) [] vs
  | common (vs ws : List α) : All2 (E eqb) vs ws → EditOK (.common vs) vs ws
  | replace (ds : List (Option δ)) (os ns : List α) : ReplOK elemDiff lit ds os ns → EditOK (.replace ds) os ns

/-- The edit script reproduces both sequences: kept plus deleted elements (and the old sides of replacements) are
the old sequence, kept plus added elements (and the new sides) the new one. -/
inductive Recon : List (Edit α δ) → List α → List α → Prop
  | nil : Recon [] [] []
  | cons (e : Edit α δ) (es : List (Edit α δ)) (o n dO dN : List α) :
      EditOK eqb elemDiff lit e dO dN → Recon es o n → Recon (e :: es) (dO ++ o) (dN ++ n)

/-- the same with the most recent edit first -/
inductive ReconR : List (Edit α δ) → List α → List α → Prop
  | nil : ReconR [] [] []
  | snoc (e : Edit α δ) (es : List (Edit α δ)) (o n dO dN : List α) :
      ReconR es o n → EditOK eqb elemDiff lit e dO dN → ReconR (e :: es) (o ++ dO) (n ++ dN)

variable {eqb elemDiff lit}

theorem Recon.snoc {es : List (Edit α δ)} {o n : List α} (h : Recon eqb elemDiff lit es o n) (e : Edit α δ)
    (dO dN : List α) (he : EditOK eqb elemDiff lit e dO dN) :
    Recon eqb elemDiff lit (es ++ [e]) (o ++ dO) (n ++ dN) := by
  induction h with
  | nil => simpa using Recon.cons e [] [] [] dO dN he Recon.nil
  | cons e' es' o' n' dO' dN' he' _ ih =>
    have := Recon.cons e' _ _ _ dO' dN' he' ih
    simpa [List.append_assoc] using this

theorem ReconR.toRecon {es : List (Edit α δ)} {o n : List α} (h : ReconR eqb elemDiff lit es o n) :
    Recon eqb elemDiff lit es.reverse o n := by
  induction h with
  | nil => exact Recon.nil
  | snoc e es o n dO dN _ he ih => simpa using ih.snoc e dO dN he

theorem diffReplacements_go_total (os : List α) : ∀ (ns : List α), os.length = ns.length →
    (∀ x ∈ os, ∀ y ∈ ns, ∃ d, elemDiff x y = .ok d) →
    ∃ ds, diffReplacements.go elemDiff os ns = .ok ds := by
  induction os with
  | nil => intro ns _ _; exact ⟨[], by simp [diffReplacements.go]⟩
  | cons o os ih =>
    intro ns hl hD
    cases ns with
    | nil => simp at hl
    | cons n ns =>
      obtain ⟨d, hd⟩ := hD o (by simp) n (by simp)
      obtain ⟨ds, hds⟩ := ih ns (by simpa using hl) (fun x hx y hy => hD x (by simp [hx]) y (by simp [hy]))
      exact ⟨d :: ds, by simp [diffReplacements.go, hd, hds, bind, Except.bind, pure, Except.pure]⟩

theorem diffReplacements_total (os ns : List α) (hl : os.length = ns.length)
    (hD : ∀ x ∈ os, ∀ y ∈ ns, lit = none → ∃ d, elemDiff x y = .ok d) :
    ∃ ds, diffReplacements elemDiff lit os ns = .ok ds := by
  unfold diffReplacements
  cases lit with
  | some f => exact ⟨_, rfl⟩
  | none => exact diffReplacements_go_total os ns hl (fun x hx y hy => hD x hx y hy rfl)

theorem toEdit_ok {e : RawEdit α} {dO dN : List α} (hs : StepS eqb e.kind e.values dO dN) :
    EditOK eqb elemDiff lit (toEdit e) dO dN := by
  generalize hk : e.kind = κ at hs
  cases hs with
  | delete => simp only [toEdit, hk]; exact .delete _
  | add => simp only [toEdit, hk]; exact .add _
  | common _ ws hf => simp only [toEdit, hk]; exact .common _ _ hf

theorem mergeStep_pass {out : List (Edit α δ)} {e : RawEdit α}
    (h : ¬ (e.kind = .add ∧ ∃ old rest, out = .delete old :: rest)) :
    mergeStep elemDiff lit out e = .ok (toEdit e :: out) := by
  unfold mergeStep
  split
  · next old rest hk => exact absurd ⟨hk, old, rest, rfl⟩ h
  · rfl

theorem ReconR.replace {rest : List (Edit α δ)} {o n : List α} (h : ReconR eqb elemDiff lit rest o n)
    (os ns : List α) (hl : os.length = ns.length)
    (hD : ∀ x ∈ os, ∀ y ∈ ns, lit = none → ∃ d, elemDiff x y = .ok d) :
    ∃ ds, diffReplacements elemDiff lit os ns = .ok ds ∧
      ReconR eqb elemDiff lit (.replace ds :: rest) (o ++ os) (n ++ ns) := by
  obtain ⟨ds, hds⟩ := diffReplacements_total os ns hl hD
  exact ⟨ds, hds, .snoc _ rest o n os ns h (.replace ds os ns ⟨hl, hds⟩)⟩

theorem mergeStep_spec {out : List (Edit α δ)} {o n dO dN : List α} (e : RawEdit α)
    (h : ReconR eqb elemDiff lit out o n) (hs : StepS eqb e.kind e.values dO dN)
    (hD : ∀ x ∈ o ++ dO, ∀ y ∈ n ++ dN, lit = none → ∃ d, elemDiff x y = .ok d) :
    ∃ out', mergeStep elemDiff lit out e = .ok out' ∧ ReconR eqb elemDiff lit out' (o ++ dO) (n ++ dN) := by
  by_cases hm : e.kind = .add ∧ ∃ old rest, out = .delete old :: rest
  · -- a delete of `old` followed by an add of `e.values`: a replace, and what is left over of the longer one
    obtain ⟨hk, old, rest, rfl⟩ := hm
    rw [hk] at hs
    cases hs
    cases h with
    | snoc _ _ o' n' tO tN hrest htail =>
      cases htail
      simp only [List.append_nil] at hD ⊢
      simp only [mergeStep, hk]
      by_cases h1 : old.length < e.values.length
      · obtain ⟨ds, hds, r1⟩ := hrest.replace old (e.values.take old.length) (by simp; omega)
          (fun x hx y hy => hD x (by simp [hx]) y (by simp [List.mem_of_mem_take hy]))
        refine ⟨.add (e.values.drop old.length) :: .replace ds :: rest,
          by simp [h1, hds, bind, Except.bind, pure, Except.pure], ?_⟩
        simpa [List.append_assoc] using ReconR.snoc (.add (e.values.drop old.length)) _ _ _ [] _ r1 (.add _)
      · by_cases h2 : old.length > e.values.length
        · obtain ⟨ds, hds, r1⟩ := hrest.replace (old.take e.values.length) e.values (by simp; omega)
            (fun x hx y hy => hD x (by simp [List.mem_of_mem_take hx]) y (by simp [hy]))
          refine ⟨.delete (old.drop e.values.length) :: .replace ds :: rest,
            by simp [h1, h2, hds, bind, Except.bind, pure, Except.pure], ?_⟩
          simpa [List.append_assoc] using ReconR.snoc (.delete (old.drop e.values.length)) _ _ _ _ [] r1 (.delete _)
        · obtain ⟨ds, hds, r1⟩ := hrest.replace old e.values (by omega)
            (fun x hx y hy => hD x (by simp [hx]) y (by simp [hy]))
          exact ⟨.replace ds :: rest, by simp [h1, h2, hds, bind, Except.bind, pure, Except.pure], r1⟩
  · exact ⟨_, mergeStep_pass hm, .snoc _ out o n dO dN h (toEdit_ok hs)⟩

theorem merge_snoc (out : List (Edit α δ)) (xs : List (RawEdit α)) (e : RawEdit α) :
    merge elemDiff lit out (xs ++ [e]) = merge elemDiff lit out xs >>= fun o => mergeStep elemDiff lit o e := by
  induction xs generalizing out with
  | nil => simp only [List.nil_append, merge, bind, Except.bind]; cases mergeStep elemDiff lit out e <;> rfl
  | cons x xs ih =>
    simp only [List.cons_append, merge, bind, Except.bind]
    cases mergeStep elemDiff lit out x with
    | error _ => rfl
    | ok o => exact ih o

theorem merge_spec {raw : List (RawEdit α)} {o n : List α} (h : RawS eqb raw o n)
    (hD : ∀ x ∈ o, ∀ y ∈ n, lit = none → ∃ d, elemDiff x y = .ok d) :
    ∃ out, merge elemDiff lit [] raw.reverse = .ok out ∧ ReconR eqb elemDiff lit out o n := by
  induction h with
  | nil => exact ⟨[], rfl, .nil⟩
  | snoc e es o n dO dN _ hs ih =>
    obtain ⟨out1, e1, r1⟩ := ih fun x hx y hy => hD x (List.mem_append_left _ hx) y (List.mem_append_left _ hy)
    obtain ⟨out2, e2, r2⟩ := mergeStep_spec e r1 hs hD
    exact ⟨out2, by rw [List.reverse_cons, merge_snoc, e1]; exact e2, r2⟩

end
end Dawn.Diff
