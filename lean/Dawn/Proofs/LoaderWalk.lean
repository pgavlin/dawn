import Dawn.Proofs.LoaderGraph
/-!
The cycle-detection argument for the fixed loader (the last-publisher argument of `design-probes/runner-walk`, on a
functional graph). `Seg s x a b`: from `a`, following one or more `loading` pointers *published before `x`'s own*
(`ptime < ptime x`), one reaches `b`. A pointer that is older than `x`'s publication has not changed since `x`
published, so a goroutine that publishes `x.loading = d` and then walks from `d` follows exactly the path `Seg s x d ·`
— if that path leads back to `x` it finds `x`; when its walk ends without finding `x`, no such path exists
(`¬ Seg s x d x`), and no later step of any other goroutine can create one (later publications are younger than `x`'s).
-/
namespace Dawn.Loader

inductive Seg (s : State) (x : Mod) : Mod → Mod → Prop where
  | one {a b : Mod} : s.loading a = some b → s.ptime a < s.ptime x → Seg s x a b
  | more {a e b : Mod} : s.loading a = some e → s.ptime a < s.ptime x → Seg s x e b → Seg s x a b

theorem Seg.snoc {s : State} {x a b c : Mod} (h : Seg s x a b) (hb : s.loading b = some c) (hp : s.ptime b < s.ptime x) :
    Seg s x a c := by
  induction h with
  | one h1 h2 => exact .more h1 h2 (.one hb hp)
  | more h1 h2 _ ih => exact .more h1 h2 (ih hb hp)

theorem Seg.not_from {s : State} {x b : Mod} (h : Seg s x x b) : False := by
  cases h with
  | one _ h2 => exact Nat.lt_irrefl _ h2
  | more _ h2 _ => exact Nat.lt_irrefl _ h2

/-- pointers are functional -/
theorem Seg.det {s : State} {x a c : Mod} (h1 : Seg s x a c) (h2 : Seg s x a x) : c = x ∨ Seg s x c x := by
  induction h1 with
  | one ha _ =>
    cases h2 with
    | one hb _ => rw [ha] at hb; cases hb; exact Or.inl rfl
    | more hb _ h3 => rw [ha] at hb; cases hb; exact Or.inr h3
  | more ha _ h4 ih =>
    cases h2 with
    | one hb _ => rw [ha] at hb; cases hb; exact (h4.not_from).elim
    | more hb _ h3 => rw [ha] at hb; cases hb; exact ih h3

/-- `s'` has no old pointer (w.r.t. `x`) that `s` does not have -/
def OldSub (s s' : State) (x : Mod) : Prop :=
  ∀ y z, s'.loading y = some z → s'.ptime y < s'.ptime x → s.loading y = some z ∧ s.ptime y < s.ptime x

theorem Seg.earlier {s s' : State} {x a b : Mod} (hs : OldSub s s' x) (h : Seg s' x a b) : Seg s x a b := by
  induction h with
  | one h1 h2 => exact .one (hs _ _ h1 h2).1 (hs _ _ h1 h2).2
  | more h1 h2 _ ih => exact .more (hs _ _ h1 h2).1 (hs _ _ h1 h2).2 ih

/-- a walker's position on the old path to `x` survives the step: the pointers of the path that still exists are among
those that did not change, and pointers are functional -/
theorem Seg.transfer {s s' : State} {x a c : Mod} (hs : OldSub s s' x) (h' : Seg s' x a x) (h : Seg s x a c) :
    Seg s' x a c := by
  induction h with
  | one ha _ =>
    cases h' with
    | one hb hp => rw [(hs _ _ hb hp).1] at ha; cases ha; exact .one hb hp
    | more hb hp _ => rw [(hs _ _ hb hp).1] at ha; cases ha; exact .one hb hp
  | more ha _ h4 ih =>
    cases h' with
    | one hb hp => rw [(hs _ _ hb hp).1] at ha; cases ha; exact h4.not_from.elim
    | more hb hp h3 => rw [(hs _ _ hb hp).1] at ha; cases ha; exact .more hb hp (ih h3)

/-- the goroutine is in `d.wait(x)` (chain walk or condition wait) with `x.loading = d` published -/
def waitingPc : PC → Option Mod
  | .walk d _ | .wlock d | .sleep d => some d
  | _ => none

structure Inv6 (s : State) : Prop where
  /-- the chain walk is on the old path from `d` to `x`, if there is one -/
  walk_on : ∀ t f rest d cur, s.stack t = f :: rest → s.pc t = .walk d cur → Seg s f.mod d f.mod →
      ∃ c, cur = some c ∧ Seg s f.mod d c
  /-- a walk that starts at the waiter itself (a module loading itself) sees it at once -/
  walk_self : ∀ t f rest cur, s.stack t = f :: rest → s.pc t = .walk f.mod cur → cur = some f.mod
  /-- after an unsuccessful walk there is no old path back to the waiter -/
  wait_safe : ∀ t f rest d, s.stack t = f :: rest → (s.pc t = .wlock d ∨ s.pc t = .sleep d) →
      d ≠ f.mod ∧ ¬ Seg s f.mod d f.mod

theorem inv6_init (P : Project) : Inv6 (init P) :=
  ⟨fun _ _ _ _ _ hs => (nomatch hs), fun _ _ _ _ hs => (nomatch hs), fun _ _ _ _ hs => (nomatch hs)⟩

theorem OldSub.of_eq {s s' : State} (hl : s'.loading = s.loading) (hp : s'.ptime = s.ptime) (x : Mod) : OldSub s s' x := by
  intro y z h1 h2; rw [hl] at h1; rw [hp] at h2; exact ⟨h1, h2⟩

theorem Seg.congr {s s' : State} (hl : s'.loading = s.loading) (hp : s'.ptime = s.ptime) {x a b : Mod} :
    Seg s' x a b ↔ Seg s x a b :=
  ⟨Seg.earlier (OldSub.of_eq hl hp x), Seg.earlier (OldSub.of_eq hl.symm hp.symm x)⟩

theorem OldSub.publish {s s' : State} (inv3 : Inv3 s) {x y d : Mod} (hx : s.loading x ≠ none) (hy : y ≠ x)
    (hl : s'.loading = upd s.loading y (some d)) (hp : s'.ptime = upd s.ptime y s.clock) : OldSub s s' x := by
  intro w z h1 h2
  rw [hl] at h1; rw [hp] at h2
  have hxc := inv3.ptime_lt x hx
  simp only [upd, Ne.symm hy, ↓reduceIte] at h1 h2
  by_cases hw : w = y
  · simp only [hw, ↓reduceIte] at h2; omega
  · simp only [hw, ↓reduceIte] at h1 h2; exact ⟨h1, h2⟩

theorem OldSub.unset {s s' : State} {x y : Mod}
    (hl : s'.loading = upd s.loading y none) (hp : s'.ptime = s.ptime) : OldSub s s' x := by
  intro w z h1 h2
  rw [hl] at h1; rw [hp] at h2
  simp only [upd] at h1
  split at h1
  · cases h1
  · exact ⟨h1, h2⟩

theorem seg_setPc {s : State} {t : Tid} {p : PC} {x a b : Mod} : Seg (setPc s t p) x a b ↔ Seg s x a b :=
  Seg.congr (s := s) (s' := setPc s t p) rfl rfl

theorem seg_goSleep {s : State} {t : Tid} {d x a b : Mod} : Seg (goSleep s t d) x a b ↔ Seg s x a b :=
  Seg.congr (s := s) (s' := goSleep s t d) rfl rfl

theorem waiting_ptr {s : State} (inv3 : Inv3 s) {t : Tid} {f : Frame} {rest : List Frame} {d : Mod}
    (hs : s.stack t = f :: rest) (hw : waitingPc (s.pc t) = some d) : s.loading f.mod = some d := by
  have hc := inv3.chain t f rest hs
  simp only [chainOK] at hc
  rw [hc.1]
  cases hpc : s.pc t <;> simp [hpc, waitingPc] at hw <;> simp [topPtr, hw]

/-- A step leaves the pointers that are old with respect to a waiting goroutine's top frame as they are: it publishes
(a younger pointer, on the top frame of a goroutine that is not waiting), clears a pointer, or touches none. -/
theorem FStep.oldSub {P : Project} {s s' : State} {t t1 : Tid} (inv2 : Inv2 s) (inv3 : Inv3 s) (st : FStep P s t s')
    {f : Frame} {rest : List Frame} {d : Mod} (hs : s.stack t1 = f :: rest) (hw : waitingPc (s.pc t1) = some d) :
    OldSub s s' f.mod := by
  have pub : ∀ {g grest d'}, (s.pc t = .setNew d' ∨ s.pc t = .setFound d') → s.stack t = g :: grest →
      s.loading f.mod ≠ none ∧ g.mod ≠ f.mod := fun hpc hg =>
    have ht : t ≠ t1 := fun e => by rcases hpc with h | h <;> simp [← e, h, waitingPc] at hw
    ⟨by rw [waiting_ptr inv3 hs hw]; simp, inv2.disjoint _ _ _ _ ht (by simp [hg]) (by simp [hs])⟩
  cases st
  case setNewPub hpc hst => exact OldSub.publish inv3 (pub (.inl hpc) hst).1 (pub (.inl hpc) hst).2 rfl rfl
  case setFoundPub hpc hst => exact OldSub.publish inv3 (pub (.inr hpc) hst).1 (pub (.inr hpc) hst).2 rfl rfl
  case unsetOk | unsetFail => exact OldSub.unset rfl rfl
  all_goals exact OldSub.of_eq rfl rfl _

theorem inv6_fstep {P : Project} {s s' : State} {t : Tid} (inv2 : Inv2 s) (inv3 : Inv3 s) (inv : Inv6 s)
    (st : FStep P s t s') : Inv6 s' := by
  constructor
  · intro t1 f rest d cur hs hp hseg
    rcases st.frame t1 with rfl | ⟨hp', hs'⟩
    · -- the walk starts at, or moves to, the next module of the old path
      cases st <;> simp only [setPc, publish, goSleep, upd_same, reduceCtorEq, PC.walk.injEq] at hp hs
      case enterWalk d' _ _ _ _ =>
        obtain ⟨rfl, rfl⟩ := hp
        cases seg_setPc.1 hseg with
        | one h1 h2 => exact ⟨_, h1, hseg⟩
        | more h1 h2 h3 => exact ⟨_, h1, seg_setPc.2 (.one h1 h2)⟩
      case walkNext d' c hpc htop =>
        obtain ⟨rfl, rfl⟩ := hp
        have hseg' := seg_setPc.1 hseg
        obtain ⟨_, hc0, hdc⟩ := inv.walk_on t1 f rest d' (some c) hs hpc hseg'
        cases hc0
        rcases hdc.det hseg' with e | hcx
        · exact absurd (by simp [top, hs, e]) htop
        · cases hcx with
          | one h1 h2 => exact ⟨_, h1, hseg⟩
          | more h1 h2 h3 => exact ⟨_, h1, seg_setPc.2 (hdc.snoc h1 h2)⟩
    · rw [hs'] at hs; rw [hp'] at hp
      have ho := st.oldSub inv2 inv3 hs (d := d) (by simp [hp, waitingPc])
      obtain ⟨c, hc, hsc⟩ := inv.walk_on t1 f rest d cur hs hp (hseg.earlier ho)
      exact ⟨c, hc, Seg.transfer ho hseg hsc⟩
  · intro t1 f rest cur hs hp
    rcases st.frame t1 with rfl | ⟨hp', hs'⟩
    · cases st <;> simp only [setPc, publish, goSleep, upd_same, reduceCtorEq, PC.walk.injEq] at hp hs
      case enterWalk d' g grest hpc hst =>
        obtain ⟨rfl, rfl⟩ := hp
        have hc := inv3.chain t1 f rest hs
        simp only [chainOK, hpc, topPtr] at hc
        exact hc.1
      case walkNext d' c hpc htop =>
        obtain ⟨rfl, rfl⟩ := hp
        cases inv.walk_self t1 f rest (some c) hs hpc
        exact absurd (by simp [top, hs]) htop
    · exact inv.walk_self t1 f rest cur (hs' ▸ hs) (hp' ▸ hp)
  · intro t1 f rest d hs hp
    rcases st.frame t1 with rfl | ⟨hp', hs'⟩
    · -- the walk has ended without finding the waiter; going to sleep (again) changes nothing
      cases st <;> simp only [setPc, publish, goSleep, upd_same, reduceCtorEq, PC.wlock.injEq, PC.sleep.injEq, or_false,
        false_or] at hp hs <;> subst hp
      case enterRoot hst => simp [hst] at hs
      case walkNone hpc =>
        refine ⟨fun e => ?_, fun hseg => ?_⟩
        · cases inv.walk_self t1 f rest none hs (e ▸ hpc)
        · obtain ⟨_, hc0, _⟩ := inv.walk_on t1 f rest _ none hs hpc (seg_setPc.1 hseg)
          cases hc0
      case wlockSleep hpc _ =>
        exact (inv.wait_safe t1 f rest _ hs (.inl hpc)).imp id fun h h' => h (seg_goSleep.1 h')
      case wakeAgain hpc _ _ =>
        exact (inv.wait_safe t1 f rest _ hs (.inr hpc)).imp id fun h h' => h (seg_goSleep.1 h')
    · rw [hs'] at hs; rw [hp'] at hp
      have ho := st.oldSub inv2 inv3 hs (d := d) (by rcases hp with h | h <;> simp [h, waitingPc])
      exact (inv.wait_safe t1 f rest d hs hp).imp id fun h h' => h (h'.earlier ho)

theorem inv6_reachable {P : Project} {s : State} (h : Reachable .fixed P s) : Inv6 s :=
  reachable_induction (I := Inv6) (inv6_init P)
    (fun _ _ _ hr ih st => inv6_fstep (inv2_reachable hr) (inv3_reachable hr) ih st) h

end Dawn.Loader
