import Dawn.Proofs.PickleRT
import Dawn.Proofs.PickleLoop
/-! From the op-level simulation to bytes: several values written by one Encoder and read back by one Decoder (both
keep their memo across calls) come back as written, with the sharing across them; `decode (encode g) = g` is the case of
one value. -/
namespace Dawn.Pickle

theorem decodeNext_runs {cfg : DecCfg} {ops : List Op} {ds ds' : DecSt} (h : Runs cfg ds ops ds') (fuel : Nat) (rest : Bytes) :
    decodeNext cfg (ops.length + fuel) ds (serAll ops ++ rest) = decodeNext cfg fuel ds' rest := by
  induction h with
  | nil => simp [serAll]
  | cons hw hs _ ih =>
    rw [serAll_cons, List.append_assoc, List.length_cons, Nat.add_right_comm, decodeNext, parseOp_ser _ _ hw]
    simp only [hs]
    exact ih

theorem decodeNext_value {cfg : DecCfg} {ops : List Op} {ds ds' : DecSt} (h : Runs cfg ds ops ds') {v : Val}
    {stk : List Val} (hs : ds'.stack = v :: stk) (rest : Bytes) :
    decodeNext cfg ((serAll (ops ++ [.stop]) ++ rest).length + 1) ds (serAll (ops ++ [.stop]) ++ rest) =
      .value v { ds' with stack := stk } rest := by
  have hl := serAll_length_ge ops
  rw [serAll_append, List.append_assoc]
  obtain ⟨k, hk⟩ : ∃ k, (serAll ops ++ (serAll [.stop] ++ rest)).length + 1 = ops.length + (k + 1) :=
    ⟨(serAll ops ++ (serAll [.stop] ++ rest)).length - ops.length, by simp only [List.length_append]; omega⟩
  rw [hk, decodeNext_runs h, decodeNext, show serAll [.stop] = ser .stop ++ [] from rfl, List.append_assoc,
    parseOp_ser .stop _ trivial]
  simp [stepOp, hs]

theorem decode_runs {cfg : DecCfg} {ops : List Op} {ds' : DecSt} (h : Runs cfg {} ops ds') {v : Val} {stk : List Val}
    (hs : ds'.stack = v :: stk) : decode cfg (serAll (ops ++ [.stop])) = .ok ds'.heap v := by
  have := decodeNext_value h hs []
  rw [List.append_nil] at this
  rw [decode, decodeLoop_eq_next, this]
  rfl

theorem sim_init (g : Heap) : Sim g ⟨[], 0⟩ {} :=
  ⟨rfl, rfl, by intro a id h; simp [lookup] at h, Closed.init, by intro a o h; simp at h, Nat.le_refl _, Nat.zero_le _⟩

/-- the stream round trip from any point of it: `acc` are the values the earlier calls returned, `rest` is whatever
follows the stream in the input -/
theorem stream_spec {cfgD : DecCfg} (cfgE : EncCfg) (hre : cfgE.rebatch = false) (g : Heap) (hG : GraphOK cfgD g) (fuel : Nat) :
    ∀ (vs : List Val) (st st' : EncSt) (ops : List Op) (ds : DecSt) (rest : Bytes) (acc : List Val),
      encStream cfgE g fuel st vs = some (st', ops) → Sim g st ds → (∀ v ∈ vs, v.sizeOK = true) →
      ∃ ds', decodeStream cfgD vs.length ds (serAll ops ++ rest) acc = .ok (acc ++ vs) ds'.heap ∧ Post g st st' ds ds' := by
  intro vs
  induction vs with
  | nil =>
    intro st st' ops ds rest acc h hs _
    cases h
    exact ⟨ds, by simp [decodeStream], .same hs rfl⟩
  | cons v vs ih =>
    intro st st' ops ds rest acc h hs hsz
    obtain ⟨hv, hvs⟩ := List.forall_mem_cons.mp hsz
    simp only [encStream] at h
    cases h1 : encVal cfgE g fuel st v with
    | none => simp [h1] at h
    | some p1 =>
      obtain ⟨st1, ops1⟩ := p1
      simp only [h1] at h
      cases h2 : encStream cfgE g fuel st1 vs with
      | none => simp [h2] at h
      | some p2 =>
        obtain ⟨st2, ops2⟩ := p2
        simp only [h2, Option.some.injEq, Prod.mk.injEq] at h
        obtain ⟨rfl, rfl⟩ := h
        obtain ⟨_, d1, r1, s1, p1⟩ := encVal_spec cfgE hre hG fuel st v st1 ops1 ds h1 hs hv
        -- STOP pops the value; the Decoder goes on with the stack as it was
        have sim1 := p1.sim.of_closed
          (p1.sim.closed.restack (stk := ds.stack) fun x hx => p1.sim.closed.stack x (by rw [s1]; simp [hx])) rfl rfl
        obtain ⟨ds', e2, p2⟩ := ih st1 st2 ops2 _ rest (acc ++ [v]) h2 sim1 hvs
        refine ⟨ds', ?_, Post.trans ⟨sim1, p1.mono, p1.frame, p1.fresh⟩ p2⟩
        rw [serAll_append, List.append_assoc, List.length_cons, decodeStream, decodeNext_value r1 s1]
        simpa using e2

theorem roundtrip_stream {cfgD : DecCfg} (cfgE : EncCfg) (hre : cfgE.rebatch = false) (g : MGraph) (hG : GraphOK cfgD g.heap)
    (hroots : ∀ v ∈ g.roots, v.sizeOK = true) (bs : Bytes) (h : encodeStream cfgE g = some bs) :
    decodeStream cfgD g.roots.length {} bs [] = .ok g.roots g.heap := by
  simp only [encodeStream] at h
  split at h
  · rename_i st ops henc
    split at h
    · rename_i hall
      cases h
      obtain ⟨ds', e, p⟩ := stream_spec cfgE hre g.heap hG _ g.roots ⟨[], 0⟩ st ops {} [] [] henc (sim_init g.heap) hroots
      simp only [List.append_nil, List.nil_append] at e
      rw [e]
      congr 1
      -- every address below `st.next = heap.length` was rebuilt as in `g`
      apply List.ext_getElem?
      intro a
      by_cases ha : a < st.next
      · exact p.fresh a (Nat.zero_le _) ha
      · rw [List.getElem?_eq_none (by rw [p.sim.hlen]; omega), List.getElem?_eq_none (by omega)]
    · cases h
  · cases h

theorem encode_eq_stream (cfg : EncCfg) (g : Graph) : encode cfg g = encodeStream cfg ⟨g.heap, [g.root]⟩ := by
  simp only [encode, encodeOps, encodeStream, encStream]
  cases encVal cfg g.heap (g.heap.length + 1) ⟨[], 0⟩ g.root with
  | none => rfl
  | some p => simp only [List.append_nil]; split <;> rfl

theorem decode_of_stream {cfg : DecCfg} {bs : Bytes} {h : Heap} {v : Val}
    (hd : decodeStream cfg 1 {} bs [] = .ok [v] h) : decode cfg bs = .ok h v := by
  simp only [decodeStream] at hd
  rw [decode, decodeLoop_eq_next]
  split at hd <;> try cases hd
  · rename_i heq; rw [heq]; rfl
  · split at hd <;> cases hd

end Dawn.Pickle
