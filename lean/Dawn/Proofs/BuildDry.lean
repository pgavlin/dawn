import Dawn.Proofs.BuildInv
/-!
# A dry run predicts the real build (C13)

The dry run and the real build of the same tree from the same state are folded over the same order. As long as a
target's dependencies all succeeded in the real build, both runs take the same skip decision for it: the records of
targets not yet visited are untouched, `changed` is set in both runs exactly for evaluated targets, and a file the
decision reads can only differ when the target that owns it was evaluated — which already forces the decision.
-/
namespace Dawn.Build

variable {P : Params} {S : Shape} {t : Tree} {o : Opts}

/-- `l` has a `TargetEvaluating` event -/
def evalIn (l : Label) (evs : List Ev) : Prop := Ev.evaluating l ∈ evs

/-- the evaluating set of a build -/
def evaluating (s : BSt) : List Label := s.evs.filterMap fun | .evaluating l => some l | _ => none

theorem mem_evaluating (s : BSt) (l : Label) : l ∈ evaluating s ↔ evalIn l s.evs := by
  unfold evaluating evalIn
  simp only [List.mem_filterMap]
  constructor
  · rintro ⟨e, he, h⟩
    cases e <;> simp at h
    subst h; exact he
  · intro h; exact ⟨_, h, rfl⟩

/-- the relation between the real build (`r`) and the dry run (`d`) after the same prefix of the order -/
structure DryRel (P : Params) (S : Shape) (t : Tree) (w0 : World) (r d : BSt) : Prop where
  dworld : d.w = w0
  dom : ∀ x, r.memo x = none ↔ d.memo x = none
  ok : ∀ x mr md, r.memo x = some mr → d.memo x = some md → mr.ok = true →
    md.ok = true ∧ md.changed = mr.changed ∧ (mr.changed = false → md.data = mr.data) ∧ (evalIn x r.evs ↔ evalIn x d.evs)
  sub : ∀ x, evalIn x r.evs → evalIn x d.evs
  /-- an extra target of the dry run has a dependency that failed in the real build -/
  extra : ∀ x, evalIn x d.evs → ¬ evalIn x r.evs → ∃ mr, r.memo x = some mr ∧ mr.ok = false
  visited : ∀ x, (evalIn x r.evs ∨ evalIn x d.evs) → r.memo x ≠ none
  recs : ∀ y, r.memo y = none → r.w.recs y = w0.recs y
  files : ∀ p, r.w.files p = w0.files p ∨
    ∃ g mg, S.owner p = some g ∧ (t.defs g).isSome ∧ r.memo g = some mg ∧ (mg.changed = true ∨ mg.ok = false)

theorem visit_evs (P : Params) (t : Tree) (o : Opts) (s : BSt) (l : Label) :
    ∀ x, evalIn x (visit P t o s l).evs ↔ (evalIn x s.evs ∨ (x = l ∧ evalIn l (visit P t o s l).evs)) := by
  obtain ⟨ss, s', -, hs', hv⟩ := visit_ends P t o s l
  rw [hs']
  have h : ∀ (e : Ev) (x : Label), e ≠ .evaluating x → (evalIn x (e :: s.evs) ↔ (evalIn x s.evs ∨ (x = l ∧ evalIn l (e :: s.evs)))) := by
    intro e x he
    simp only [evalIn, List.mem_cons, he.symm, false_or]
    exact ⟨Or.inl, fun h => h.elim id fun ⟨e', h⟩ => h.elim (fun h => absurd (e' ▸ h.symm) he) (e' ▸ ·)⟩
  intro x
  cases hv with
  | undefined => exact ⟨Or.inl, fun h => h.elim id fun ⟨e, h⟩ => e ▸ h⟩
  | depFailed _ _ _ rep =>
    cases rep
    · exact ⟨Or.inl, fun h => h.elim id fun ⟨e, h⟩ => e ▸ h⟩
    · exact h _ x (by simp)
  | skip => exact h _ x (by simp)
  | dry =>
    simp only [evalIn, List.mem_cons, reduceCtorEq, Ev.evaluating.injEq, false_or, true_or, and_true]
    exact ⟨fun h => h.symm, fun h => h.symm⟩
  | run =>
    have : ∀ b : Bool, Ev.evaluating x ≠ (if b = true then Ev.succeeded l else Ev.failed l) := by intro b; cases b <;> simp
    simp only [evalIn, List.mem_cons, this, Ev.evaluating.injEq, false_or, true_or, or_true, and_true]
    exact ⟨fun h => h.symm, fun h => h.symm⟩

theorem skipOK_rel {w0 : World} {r d : BSt} {l : Label} {df : Def}
    (hc : Conforms S t) (rel : DryRel P S t w0 r d) (hd : t.defs l = some df) (hfresh : r.memo l = none)
    (hok : DepsOk t r l df) :
    DepsOk t d l df ∧ loadedInfo d.w l df = loadedInfo r.w l df ∧
    (SkipOK P t { o with dry := true } d l df ↔ SkipOK P t o r l df) := by
  -- what the relation says about a dependency
  have dep : ∀ y ∈ depsOf t l df, ∃ mr md, r.memo y = some mr ∧ d.memo y = some md ∧ mr.ok = true ∧ md.ok = true ∧
      md.changed = mr.changed ∧ (mr.changed = false → md.data = mr.data) := by
    intro y hy
    obtain ⟨mr, hmr, hmrok⟩ := hok y hy
    cases hmd : d.memo y with
    | none => rw [(rel.dom y).mpr hmd] at hmr; cases hmr
    | some md =>
      obtain ⟨h1, h2, h3, _⟩ := rel.ok y mr md hmr hmd hmrok
      exact ⟨mr, md, hmr, rfl, hmrok, h1, h2, h3⟩
  have hinfo : loadedInfo d.w l df = loadedInfo r.w l df := by
    rw [loadedInfo_eq, loadedInfo_eq, rel.dworld, rel.recs l hfresh]
  -- when every dependency is unchanged, the files the target's own test reads are untouched
  have hup : (∀ y ∈ depsOf t l df, ∃ m, r.memo y = some m ∧ m.changed = false ∧
      (loadedInfo r.w l df).deps.lookup y = some m.data) → ∀ info, upToDate P d.w df info = upToDate P r.w df info := by
    intro hun info
    rw [rel.dworld]
    refine (upToDate_files P df info (fun hk => ?_) (fun hk g hg => ?_)).symm
    · rcases rel.files df.path with h | ⟨g, mg, hown, hgdef, hmg, hbad⟩
      · exact h
      · -- the owner of the path is a dependency (`link`), it succeeded and is unchanged
        obtain ⟨m, hm, hch, _⟩ := hun g (hc.link l df hd hk g hown hgdef)
        obtain ⟨m', hm', hmok⟩ := hok g (hc.link l df hd hk g hown hgdef)
        cases hmg.symm.trans hm; cases hmg.symm.trans hm'
        rcases hbad with h | h
        · rw [hch] at h; cases h
        · rw [hmok] at h; cases h
    · rcases rel.files g with h | ⟨g', mg, hown, _, hmg, _⟩
      · exact h
      · rw [S.owned l df.env g (hc.gens l df hd hk ▸ hg)] at hown
        cases hown; rw [hfresh] at hmg; cases hmg
  -- the dependency clause of the skip test says the same in both runs
  have hdeps : (∀ y ∈ depsOf t l df, ∃ m, d.memo y = some m ∧ m.changed = false ∧
        (loadedInfo r.w l df).deps.lookup y = some m.data) ↔
      (∀ y ∈ depsOf t l df, ∃ m, r.memo y = some m ∧ m.changed = false ∧
        (loadedInfo r.w l df).deps.lookup y = some m.data) :=
    forall₂_congr fun y hy => by
      obtain ⟨mr, md, hmr, hmd, _, _, hch, hdata⟩ := dep y hy
      simp only [hmr, hmd, Option.some.injEq, exists_eq_left', hch]
      exact and_congr_right fun h => by rw [hdata h]
  refine ⟨fun y hy => ?_, hinfo, fun h => ?_, fun h => ?_⟩
  · obtain ⟨_, md, _, h, _, hmdok, _⟩ := dep y hy
    exact ⟨md, h, hmdok⟩
  · have hd' := hdeps.mp (hinfo ▸ h.deps)
    exact ⟨h.always, hd', hinfo ▸ h.len, hinfo ▸ h.attrs, (hup hd' _).symm.trans (hinfo ▸ h.upToDate), hinfo ▸ h.rerun⟩
  · exact ⟨h.always, hinfo ▸ hdeps.mpr h.deps, hinfo ▸ h.len, hinfo ▸ h.attrs,
      hinfo ▸ (hup h.deps _).trans h.upToDate, hinfo ▸ h.rerun⟩

theorem dryrel_extend {w0 : World} {r d r' d' : BSt} {l : Label} {mr md : Res} {eR eD : Prop}
    (rel : DryRel P S t w0 r d) (hfresh : r.memo l = none)
    (hmR : r'.memo = upd r.memo l (some mr)) (hmD : d'.memo = upd d.memo l (some md))
    (hevR : ∀ x, evalIn x r'.evs ↔ (evalIn x r.evs ∨ (x = l ∧ eR)))
    (hevD : ∀ x, evalIn x d'.evs ↔ (evalIn x d.evs ∨ (x = l ∧ eD)))
    (hdw : d'.w = w0)
    (hrecs : ∀ y, y ≠ l → r'.w.recs y = r.w.recs y)
    (hfiles : ∀ p, r'.w.files p = r.w.files p ∨ (S.owner p = some l ∧ (t.defs l).isSome ∧ (mr.changed = true ∨ mr.ok = false)))
    (hlocal : mr.ok = true → md.ok = true ∧ md.changed = mr.changed ∧ (mr.changed = false → md.data = mr.data) ∧ (eR ↔ eD))
    (hsub : eR → eD) (hextra : eD → ¬ eR → mr.ok = false) :
    DryRel P S t w0 r' d' := by
  -- for labels other than `l` nothing changed; at `l` the new entries and events are the given ones
  have evs : ∀ {evs evs' : List Ev} {e : Prop}, ¬ evalIn l evs → (∀ x, evalIn x evs' ↔ (evalIn x evs ∨ (x = l ∧ e))) →
      (∀ x, x ≠ l → (evalIn x evs' ↔ evalIn x evs)) ∧ (evalIn l evs' ↔ e) := fun hno h =>
    ⟨fun x hx => (h x).trans ⟨fun h => h.resolve_right fun h' => hx h'.1, Or.inl⟩,
      (h l).trans ⟨fun h => h.elim (fun h => absurd h hno) And.right, fun h => Or.inr ⟨rfl, h⟩⟩⟩
  obtain ⟨oR, sR⟩ := evs (fun h => rel.visited l (Or.inl h) hfresh) hevR
  obtain ⟨oD, sD⟩ := evs (fun h => rel.visited l (Or.inr h) hfresh) hevD
  have mR : ∀ x, x ≠ l → r'.memo x = r.memo x := fun x e => by rw [hmR, upd_other _ _ _ _ e]
  have mD : ∀ x, x ≠ l → d'.memo x = d.memo x := fun x e => by rw [hmD, upd_other _ _ _ _ e]
  have mRl : r'.memo l = some mr := by rw [hmR, upd_same]
  have mDl : d'.memo l = some md := by rw [hmD, upd_same]
  constructor
  · exact hdw
  · intro x
    by_cases e : x = l
    · rw [e, mRl, mDl]; exact ⟨fun h => (nomatch h), fun h => (nomatch h)⟩
    · rw [mR x e, mD x e]; exact rel.dom x
  · intro x mr' md' h1 h2 hok
    by_cases e : x = l
    · subst e
      cases mRl.symm.trans h1; cases mDl.symm.trans h2
      rw [sR, sD]; exact hlocal hok
    · rw [mR x e] at h1; rw [mD x e] at h2
      rw [oR x e, oD x e]; exact rel.ok x mr' md' h1 h2 hok
  · intro x hx
    by_cases e : x = l
    · subst e; exact sD.mpr (hsub (sR.mp hx))
    · exact (oD x e).mpr (rel.sub x ((oR x e).mp hx))
  · intro x hx hnx
    by_cases e : x = l
    · subst e; exact ⟨mr, mRl, hextra (sD.mp hx) fun h => hnx (sR.mpr h)⟩
    · obtain ⟨m, hm, hmok⟩ := rel.extra x ((oD x e).mp hx) fun h => hnx ((oR x e).mpr h)
      exact ⟨m, (mR x e).trans hm, hmok⟩
  · intro x hx
    by_cases e : x = l
    · rw [e, mRl]; exact Option.some_ne_none _
    · rw [mR x e]; exact rel.visited x (hx.imp (oR x e).mp (oD x e).mp)
  · intro y hy
    have hyl : y ≠ l := fun e => by rw [e, mRl] at hy; cases hy
    rw [hrecs y hyl]; exact rel.recs y (mR y hyl ▸ hy)
  · intro p
    rcases hfiles p with h | ⟨h1, h2, h3⟩
    · rw [h]
      exact (rel.files p).imp_right fun ⟨g, mg, a, b, c, dd⟩ => ⟨g, mg, a, b, hmR ▸ memo_fresh_mono hfresh c, dd⟩
    · exact Or.inr ⟨l, mr, h1, h2, mRl, h3⟩

theorem dry_step {w0 : World} {r d : BSt} {l : Label}
    (hc : Conforms S t) (hdry : o.dry = false) (rel : DryRel P S t w0 r d) (hfresh : r.memo l = none) :
    DryRel P S t w0 (visit P t o r l) (visit P t { o with dry := true } d l) := by
  obtain ⟨mD, hmD⟩ := visit_memo P t { o with dry := true } d l
  have hevD := visit_evs P t { o with dry := true } d l
  have hdw : (visit P t { o with dry := true } d l).w = w0 :=
    (visit_dry P t { o with dry := true } d l rfl).1.trans rel.dworld
  have hrecs : ∀ y, y ≠ l → (visit P t o r l).w.recs y = r.w.recs y := fun y hy => visit_recs_other P t o r hy
  have hfiles := visit_files_owner hc P o r l
  obtain ⟨ss, r', -, hr', hv⟩ := visit_ends P t o r l
  rw [hr'] at hrecs hfiles ⊢
  cases hv with
  | undefined hd =>
    -- the real build fails at `l` without evaluating it; whatever the dry run does is "extra"
    exact dryrel_extend (eR := False) rel hfresh rfl hmD (fun x => by simp) hevD hdw (fun _ _ => rfl) (fun _ => Or.inl rfl)
      (fun h => Bool.noConfusion h) False.elim (fun _ _ => rfl)
  | depFailed df hd hno rep =>
    exact dryrel_extend (eR := False) rel hfresh rfl hmD (fun x => by cases rep <;> simp [evalIn]) hevD hdw
      (fun _ _ => rfl) (fun _ => Or.inl rfl) (fun h => Bool.noConfusion h) False.elim (fun _ _ => rfl)
  | dry _ _ _ _ h => rw [hdry] at h; cases h
  | skip df hd hok hsk =>
    obtain ⟨hokD, hinfo, hiff⟩ := skipOK_rel (o := o) hc rel hd hfresh hok
    rw [visit_skip hd hokD (hiff.mpr hsk), hinfo]
    exact dryrel_extend (eR := False) (eD := False) rel hfresh rfl rfl (fun x => by simp [evalIn]) (fun x => by simp [evalIn])
      rel.dworld (fun _ _ => rfl) (fun _ => Or.inl rfl) (fun _ => ⟨rfl, rfl, fun _ => rfl, Iff.rfl⟩) id (fun h => h.elim)
  | run df hd hok hnsk =>
    obtain ⟨hokD, hinfo, hiff⟩ := skipOK_rel (o := o) hc rel hd hfresh hok
    rw [visit_dryRun hd hokD (mt hiff.mp hnsk) rfl, hinfo]
    generalize (execSteps P t o r.w l df (loadedInfo r.w l df) (depData t r l df)).2.2 = ok at hrecs hfiles ⊢
    refine dryrel_extend (eR := True) (eD := True) rel hfresh rfl rfl (fun x => ?_) (fun x => by simp [evalIn, or_comm])
      rel.dworld hrecs (fun p => ?_) (fun h => ?_) id (fun _ h => (h trivial).elim)
    · cases ok <;> simp [evalIn, or_comm]
    · by_cases ho : S.owner p = some l
      · exact Or.inr ⟨ho, by simp [hd], by cases ok <;> simp [failedRes]⟩
      · exact Or.inl (hfiles p ho)
    · cases ok
      · cases h
      · exact ⟨rfl, rfl, fun h => Bool.noConfusion h, Iff.rfl⟩

theorem dry_build {P : Params} {S : Shape} {t : Tree} {o : Opts} {w0 : World} (hc : Conforms S t) (hdry : o.dry = false) :
    ∀ (ord : List Label) (r d : BSt), DryRel P S t w0 r d → Ordered P t o r ord →
      DryRel P S t w0 (build P t o r ord) (build P t { o with dry := true } d ord) :=
  build_rel fun _ _ _ rel ho => dry_step hc hdry rel ho.fresh

theorem dryrel_init (P : Params) (S : Shape) (t : Tree) (w0 : World) : DryRel P S t w0 (BSt.init w0) (BSt.init w0) where
  dworld := rfl
  dom _ := Iff.rfl
  ok _ _ _ h := nomatch h
  sub _ h := nomatch h
  extra _ h := nomatch h
  visited _ h := h.elim (nomatch ·) (nomatch ·)
  recs _ _ := rfl
  files _ := Or.inl rfl

end Dawn.Build
