import Dawn.Proofs.LoaderStep
/-!
Invariants of the fixed loader model about the goroutines one at a time and about who holds which module.

* `Inv1`: shape of program counters and stacks.
* `Inv2`: every registered, unfinished module is owned by exactly one goroutine (it is in one frame of one stack, or
  about to be pushed), and is executed at most once.
* `InvA`: the condition variable. `asleep d` (the notify list of `d.cond`) holds exactly the goroutines that sleep in
  `d.cond.Wait()` and have not been woken, and it is empty once `d` is loaded — `done` sets `loaded` and broadcasts in
  that order, and `wait` tests `!m.loaded` and joins the list in one critical section. Hence no wake-up is lost: a
  goroutine that sleeps on a loaded module has been taken off the list and can run.
-/
namespace Dawn.Loader

/-- the load a program counter is in the middle of -/
def target : PC → Option Mod
  | .call d | .setNew d | .load d | .setFound d | .enter d | .walk d _ | .wlock d | .sleep d | .check d => some d
  | _ => none

/-- program counters of the path taken when the module was found in the registry -/
def foundPc : PC → Bool
  | .setFound _ | .enter _ | .walk _ _ | .wlock _ | .sleep _ => true
  | _ => false

theorem FStep.target_cases {P : Project} {s s' : State} {t : Tid} (st : FStep P s t s') {d : Mod}
    (ht : target (s'.pc t) = some d) :
    s'.stack t = s.stack t ∧
    ((target (s.pc t) = some d ∧
      (foundPc (s'.pc t) = true → foundPc (s.pc t) = true ∨ s.pc t = .call d ∧ s.registry d = true)) ∨
    ∃ f rest ds, s.stack t = f :: rest ∧ f.todo = d :: ds ∧ s'.pc t = .call d) := by
  cases st
  all_goals simp only [setPc, publish, goSleep, upd_same, target, reduceCtorEq, Option.some.injEq] at ht
  all_goals subst ht
  case runCall f rest _ ds _ hst _ htd => exact ⟨rfl, .inr ⟨f, rest, ds, hst, htd, upd_same ..⟩⟩
  all_goals simp [setPc, publish, goSleep, target, foundPc, *]

structure Inv1 (P : Project) (s : State) : Prop where
  /-- only the project's loader goroutines exist -/
  idle : ∀ t, P.roots.length ≤ t → s.pc t = .finished
  fin_empty : ∀ t, s.pc t = .finished → s.stack t = []
  /-- a body is being executed only inside a frame -/
  body : ∀ t, (s.pc t = .run ∨ ∃ r, s.pc t = .fin r) → s.stack t ≠ []
  /-- the load in progress is the head of the executing frame's remaining loads … -/
  tgt_frame : ∀ t f rest d, s.stack t = f :: rest → target (s.pc t) = some d → f.todo.head? = some d
  /-- … or, for the goroutine itself, its package's BUILD file -/
  tgt_root : ∀ t d, s.stack t = [] → target (s.pc t) = some d → P.roots[t]? = some d
  /-- a load that is returning belongs to the head of the remaining loads -/
  unset_frame : ∀ t f rest r, s.stack t = f :: rest → s.pc t = .unset r → f.todo ≠ []
  /-- remaining loads are a suffix of the module's load list -/
  suffix : ∀ t f, f ∈ s.stack t → f.todo <:+ P.loads f.mod
  /-- a frame below the top is in the middle of a load (of the frame above it) -/
  lower_busy : ∀ t u l post pre, s.stack t = pre ++ u :: l :: post → l.todo.head? = some u.mod
  found_reg : ∀ t d, foundPc (s.pc t) = true → target (s.pc t) = some d → s.registry d = true
  loaded_reg : ∀ m, s.loaded m = true → s.registry m = true
  frame_reg : ∀ t f, f ∈ s.stack t → s.registry f.mod = true
  new_reg : ∀ t d, (s.pc t = .setNew d ∨ s.pc t = .load d) → s.registry d = true

theorem init_pc (P : Project) (t : Tid) :
    (P.roots[t]? = none ∧ (init P).pc t = .finished) ∨ ∃ r, P.roots[t]? = some r ∧ (init P).pc t = .call r := by
  simp only [init]
  cases h : P.roots[t]? with
  | none => simp
  | some r => simp

theorem inv1_init (P : Project) : Inv1 P (init P) := by
  constructor
  · intro t h
    rcases init_pc P t with ⟨_, h2⟩ | ⟨r, h1, _⟩
    · exact h2
    · rw [List.getElem?_eq_none h] at h1; cases h1
  · intro t _; rfl
  · intro t h
    rcases init_pc P t with ⟨_, h2⟩ | ⟨r, _, h2⟩ <;> rw [h2] at h <;> simp at h
  · intro t f rest d h; simp [init] at h
  · intro t d _ h
    rcases init_pc P t with ⟨_, h2⟩ | ⟨r, h1, h2⟩ <;> rw [h2] at h <;> simp [target] at h
    subst h; exact h1
  · intro t f rest r h; simp [init] at h
  · intro t f h; simp [init] at h
  · intro t u l post pre h; simp [init] at h
  · intro t d h
    rcases init_pc P t with ⟨_, h2⟩ | ⟨r, _, h2⟩ <;> rw [h2] at h <;> simp [foundPc] at h
  · intro m h; simp [init] at h
  · intro t f h; simp [init] at h
  · intro t d h
    rcases init_pc P t with ⟨_, h2⟩ | ⟨r, _, h2⟩ <;> rw [h2] at h <;> simp at h

/-- Every field but `loaded_reg` speaks of one goroutine at a time and is monotone in the registry, so it carries over
for the goroutines that did not move; for the one that did, inversion on the step leaves the few statements that can
produce the program counter or stack in question. -/
theorem inv1_fstep {P : Project} {s s' : State} {t : Tid} (inv : Inv1 P s) (st : FStep P s t s') : Inv1 P s' := by
  constructor
  · intro t' h
    rcases st.frame t' with rfl | ⟨hp, _⟩
    · exact absurd (inv.idle _ h) st.pc_ne_finished
    · rw [hp]; exact inv.idle t' h
  · intro t' h
    rcases st.frame t' with rfl | ⟨hp, hs⟩
    · cases st <;> simp only [setPc, publish, goSleep, upd_same, reduceCtorEq] at h
      case unsetRoot hst => exact hst
    · rw [hs]; exact inv.fin_empty t' (hp ▸ h)
  · intro t' h
    rcases st.frame t' with rfl | ⟨hp, hs⟩
    · -- a body starts with `load` and goes on when a `load` statement has returned; it ends where it ran
      cases st <;> simp only [setPc, publish, goSleep, upd_same, reduceCtorEq, exists_false, or_false] at h
      all_goals simp [setPc, *]
    · rw [hs]; exact inv.body t' (hp ▸ h)
  · intro t' f rest d hs ht
    rcases st.frame t' with rfl | ⟨hp, hs'⟩
    · obtain ⟨es, ⟨e, _⟩ | ⟨g, grest, ds, hst, htd, _⟩⟩ := st.target_cases ht
      · exact inv.tgt_frame t' f rest d (es ▸ hs) e
      · rw [es, hst] at hs; cases hs
        simp [htd]
    · exact inv.tgt_frame t' f rest d (hs' ▸ hs) (hp ▸ ht)
  · intro t' d hs ht
    rcases st.frame t' with rfl | ⟨hp, hs'⟩
    · obtain ⟨es, ⟨e, _⟩ | ⟨g, grest, ds, hst, _⟩⟩ := st.target_cases ht
      · exact inv.tgt_root t' d (es ▸ hs) e
      · rw [es, hst] at hs; cases hs
    · exact inv.tgt_root t' d (hs' ▸ hs) (hp ▸ ht)
  · intro t' f rest r hs hu
    rcases st.frame t' with rfl | ⟨hp, hs'⟩
    · -- a load returns: out of `wait` with the load still at the head, or from `done` of the frame above
      have tgt : ∀ d, s'.stack t' = s.stack t' → target (s.pc t') = some d → f.todo ≠ [] := fun d e h h0 => by
        have := inv.tgt_frame t' f rest d (e ▸ hs) h
        simp [h0] at this
      cases st <;> simp only [setPc, publish, goSleep, upd_same, reduceCtorEq] at hs hu
      case walkCyc d _ hpc _ | wlockRet d hpc _ | wake d hpc _ _ => exact tgt d rfl (by simp [hpc, target])
      case fin r g rest' hpc hst =>
        have := inv.lower_busy t' g f rest [] (by simp [hst, hs])
        intro h0; simp [h0] at this
    · exact inv.unset_frame t' f rest r (hs' ▸ hs) (hp ▸ hu)
  · intro t' f hf
    rcases st.mem_stack hf with h | ⟨d, _, rfl⟩ | ⟨g, rest, _, hst, rfl, rfl⟩
    · exact inv.suffix t' f h
    · exact List.suffix_refl _
    · exact (List.tail_suffix _).trans (inv.suffix t' g (by simp [hst]))
  · intro t' u l post pre h
    rcases st.frame t' with rfl | ⟨_, hs'⟩
    · rcases st.stack_cases with e | ⟨d, hpc, e⟩ | ⟨g, rest, _, hst, e⟩ | ⟨r, g, rest, _, hst, e⟩ <;> rw [e] at h
      · exact inv.lower_busy t' u l post pre h
      · -- the new frame sits on the frame whose load it is
        cases pre with
        | nil =>
          obtain ⟨rfl, h'⟩ := List.cons.inj (h : _ = u :: l :: post)
          exact inv.tgt_frame t' l post d h' (by simp [hpc, target])
        | cons p pre => exact inv.lower_busy t' u l post pre (List.cons.inj h).2
      · cases pre with
        | nil =>
          obtain ⟨rfl, h'⟩ := List.cons.inj (h : _ = u :: l :: post)
          exact inv.lower_busy t' g l post [] (by simp [hst, h'])
        | cons p pre => exact inv.lower_busy t' u l post (g :: pre) (by simp [hst, (List.cons.inj h).2])
      · exact inv.lower_busy t' u l post (g :: pre) (by simp [hst, h])
    · exact inv.lower_busy t' u l post pre (hs' ▸ h)
  · intro t' d hf ht
    refine st.registry_mono ?_
    rcases st.frame t' with rfl | ⟨hp, _⟩
    · obtain ⟨_, ⟨e, ef⟩ | ⟨_, _, _, _, _, e⟩⟩ := st.target_cases ht
      · rcases ef hf with h | ⟨_, hr⟩
        · exact inv.found_reg t' d h e
        · exact hr
      · rw [e] at hf; cases hf
    · exact inv.found_reg t' d (hp ▸ hf) (hp ▸ ht)
  · intro m h
    refine st.registry_mono ?_
    rcases st.loaded_iff.1 h with h | ⟨r, f, rest, _, hst, rfl⟩
    · exact inv.loaded_reg m h
    · exact inv.frame_reg t f (by simp [hst])
  · intro t' f hf
    refine st.registry_mono ?_
    rcases st.mem_stack hf with h | ⟨d, hpc, rfl⟩ | ⟨g, rest, _, hst, rfl, rfl⟩
    · exact inv.frame_reg t' f h
    · exact inv.new_reg t d (.inr hpc)
    · exact inv.frame_reg t' g (by simp [hst])
  · intro t' d h
    rcases st.frame t' with rfl | ⟨hp, _⟩
    · cases st <;> simp only [setPc, publish, goSleep, upd_same, reduceCtorEq, or_false, false_or, PC.setNew.injEq,
        PC.load.injEq] at h <;> subst h
      case callNew => exact upd_same ..
      case setNewRoot hpc _ | setNewPub hpc _ => exact inv.new_reg t' _ (.inl hpc)
    · exact st.registry_mono (inv.new_reg t' d (hp ▸ h))

theorem inv1_reachable {P : Project} {s : State} (h : Reachable .fixed P s) : Inv1 P s :=
  reachable_induction (I := Inv1 P) (inv1_init P) (fun _ _ _ _ ih st => inv1_fstep ih st) h

/-- the goroutine has inserted `d` into the registry and is about to execute it -/
def claims (s : State) (t : Tid) (d : Mod) : Prop := s.pc t = .setNew d ∨ s.pc t = .load d

def mods (s : State) (t : Tid) : List Mod := (s.stack t).map Frame.mod

structure Inv2 (s : State) : Prop where
  nodup : ∀ t, (mods s t).Nodup
  mods_disjoint : ∀ t t' m, t ≠ t' → m ∈ mods s t → m ∉ mods s t'
  claim_fresh : ∀ t d, claims s t d → s.loaded d = false ∧ s.execs d = 0 ∧ ∀ t', d ∉ mods s t'
  new_uniq : ∀ t t' d, claims s t d → claims s t' d → t = t'
  frame_live : ∀ t m, m ∈ mods s t → s.loaded m = false ∧ s.execs m = 1
  owner : ∀ m, s.registry m = true → s.loaded m = false → (∃ t, m ∈ mods s t) ∨ ∃ t, claims s t m
  execs_le : ∀ m, s.execs m ≤ 1
  loaded_execs : ∀ m, s.loaded m = true → s.execs m = 1
  unreg : ∀ m, s.registry m = false → s.execs m = 0

theorem Inv2.disjoint {s : State} (inv : Inv2 s) (t t' : Tid) (f f' : Frame) (h : t ≠ t') (hf : f ∈ s.stack t)
    (hf' : f' ∈ s.stack t') : f.mod ≠ f'.mod :=
  fun e => inv.mods_disjoint t t' _ h (List.mem_map_of_mem hf) (e ▸ List.mem_map_of_mem hf')

theorem Inv2.new_fresh {s : State} (inv : Inv2 s) (t : Tid) (d : Mod) (h : claims s t d) :
    s.loaded d = false ∧ s.execs d = 0 ∧ ∀ t' f, f ∈ s.stack t' → f.mod ≠ d :=
  have ⟨h1, h2, h3⟩ := inv.claim_fresh t d h
  ⟨h1, h2, fun t' _ hf e => h3 t' (e ▸ List.mem_map_of_mem hf)⟩

theorem inv2_init (P : Project) : Inv2 (init P) := by
  have hc : ∀ t d, ¬ claims (init P) t d := fun t d h => by
    rcases init_pc P t with ⟨_, h2⟩ | ⟨r, _, h2⟩ <;> simp [claims, h2] at h
  exact ⟨fun _ => List.nodup_nil, fun _ _ _ _ h => absurd h List.not_mem_nil, fun t d h => absurd h (hc t d),
    fun t _ d h => absurd h (hc t d), fun _ _ h => absurd h List.not_mem_nil, fun _ h => absurd h Bool.false_ne_true,
    fun _ => Nat.zero_le 1, fun _ h => absurd h Bool.false_ne_true, fun _ _ => rfl⟩

theorem Inv2.congr {s s' : State} (inv : Inv2 s) (hm : ∀ t, mods s' t = mods s t)
    (hc : ∀ t d, claims s' t d ↔ claims s t d) (hr : s'.registry = s.registry) (hl : s'.loaded = s.loaded)
    (he : s'.execs = s.execs) : Inv2 s' := by
  obtain ⟨_, _, _, _, _, _, _, _, _⟩ := inv
  constructor <;> simp only [hm, hc, hr, hl, he] <;> assumption

theorem claims_upd {pc : Tid → PC} {t : Tid} {p : PC}
    (h : ∀ d, (p = .setNew d ∨ p = .load d) ↔ (pc t = .setNew d ∨ pc t = .load d)) (t' : Tid) (d : Mod) :
    (upd pc t p t' = .setNew d ∨ upd pc t p t' = .load d) ↔ (pc t' = .setNew d ∨ pc t' = .load d) := by
  simp only [upd]; split
  · rename_i e; rw [h, e]
  · rfl

/-- This lemma and the next two speak of any state `s'` that differs from `s` as the equations say, because their proofs
rewrite with these equations; `inv2_fstep` supplies them by `rfl`. -/
theorem inv2_register {P : Project} {s s' : State} {t : Tid} {d : Mod} (inv1 : Inv1 P s) (inv : Inv2 s)
    (hpc : s.pc t = .call d) (hr : s.registry d = false) (hreg : s'.registry = upd s.registry d true)
    (hp : s'.pc = upd s.pc t (.setNew d)) (hm : ∀ t', mods s' t' = mods s t') (hl : s'.loaded = s.loaded)
    (he : s'.execs = s.execs) : Inv2 s' := by
  have hc : ∀ t' d', claims s' t' d' ↔ claims s t' d' ∨ t' = t ∧ d' = d := by
    intro t' d'
    by_cases e : t' = t
    · simp [claims, hp, e, hpc, eq_comm]
    · simp [claims, hp, e]
  have noclaim : ∀ t', ¬ claims s t' d := fun t' h => by simp [inv1.new_reg t' d h] at hr
  constructor <;> simp only [hm, hc, hl, he, hreg]
  · exact inv.nodup
  · exact inv.mods_disjoint
  · rintro t' d' (h | ⟨_, rfl⟩)
    · exact inv.claim_fresh t' d' h
    · refine ⟨?_, inv.unreg _ hr, fun t' hm => ?_⟩
      · cases hl : s.loaded d' with
        | false => rfl
        | true => simp [inv1.loaded_reg _ hl] at hr
      · obtain ⟨f, hf, rfl⟩ := List.mem_map.1 hm
        simp [inv1.frame_reg t' f hf] at hr
  · rintro t1 t2 d' (h1 | ⟨rfl, rfl⟩) (h2 | ⟨rfl, e⟩)
    · exact inv.new_uniq t1 t2 d' h1 h2
    · exact absurd (e ▸ h1) (noclaim t1)
    · exact absurd h2 (noclaim t2)
    · rfl
  · exact inv.frame_live
  · intro m hr' hl
    by_cases e : m = d
    · exact .inr ⟨t, .inr ⟨rfl, e⟩⟩
    · simp only [upd, e, ↓reduceIte] at hr'
      exact (inv.owner m hr' hl).imp id fun ⟨t', h⟩ => ⟨t', .inl h⟩
  · exact inv.execs_le
  · exact inv.loaded_execs
  · intro m h
    by_cases e : m = d <;> simp only [upd, e, ↓reduceIte] at h
    · cases h
    · exact inv.unreg m h

theorem inv2_push {P : Project} {s s' : State} {t : Tid} {d : Mod} (inv1 : Inv1 P s) (inv : Inv2 s)
    (hpc : s.pc t = .load d) (hp : s'.pc = upd s.pc t .run) (hs : mods s' t = d :: mods s t)
    (hs' : ∀ t', t' ≠ t → mods s' t' = mods s t') (he : s'.execs = upd s.execs d (s.execs d + 1))
    (hr : s'.registry = s.registry) (hl : s'.loaded = s.loaded) : Inv2 s' := by
  have hcl : claims s t d := .inr hpc
  obtain ⟨hld, hex, hfree⟩ := inv.claim_fresh t d hcl
  have hc : ∀ t' d', claims s' t' d' ↔ claims s t' d' ∧ t' ≠ t := by
    intro t' d'
    by_cases e : t' = t
    · simp [claims, hp, e]
    · simp [claims, hp, e]
  have hcd : ∀ t' d', claims s t' d' → t' ≠ t → d' ≠ d :=
    fun t' d' h ht e => ht (inv.new_uniq t' t d (e ▸ h) hcl)
  have hm : ∀ t' m, m ∈ mods s' t' ↔ m ∈ mods s t' ∨ t' = t ∧ m = d := by
    intro t' m
    by_cases e : t' = t
    · simp [e, hs, or_comm]
    · simp [hs' t' e, e]
  constructor
  · intro t'
    by_cases e : t' = t
    · rw [e, hs]; exact List.nodup_cons.2 ⟨hfree t, inv.nodup t⟩
    · rw [hs' t' e]; exact inv.nodup t'
  · intro t1 t2 m hne h1 h2
    rcases (hm t1 m).1 h1 with h1 | ⟨rfl, rfl⟩ <;> rcases (hm t2 m).1 h2 with h2 | ⟨rfl, e⟩
    · exact inv.mods_disjoint t1 t2 m hne h1 h2
    · exact hfree t1 (e ▸ h1)
    · exact hfree t2 h2
    · exact hne rfl
  · intro t' d' h
    obtain ⟨h, ht⟩ := (hc t' d').1 h
    obtain ⟨h1, h2, h3⟩ := inv.claim_fresh t' d' h
    have := hcd t' d' h ht
    refine ⟨hl ▸ h1, by simpa [he, upd, this] using h2, fun t'' hm'' => ?_⟩
    rcases (hm t'' d').1 hm'' with h4 | ⟨_, e⟩
    · exact h3 t'' h4
    · exact this e
  · intro t1 t2 d' h1 h2
    exact inv.new_uniq t1 t2 d' ((hc t1 d').1 h1).1 ((hc t2 d').1 h2).1
  · intro t' m h
    rw [hl, he]
    rcases (hm t' m).1 h with h | ⟨_, rfl⟩
    · have : m ≠ d := fun e => hfree t' (e ▸ h)
      simpa [upd, this] using inv.frame_live t' m h
    · simp [upd, hld, hex]
  · intro m hr' hl'
    rcases inv.owner m (hr ▸ hr') (hl ▸ hl') with ⟨t', h⟩ | ⟨t', h⟩
    · exact .inl ⟨t', (hm t' m).2 (.inl h)⟩
    · by_cases e : t' = t
      · have : m = d := by rcases e ▸ h with h | h <;> rw [hpc] at h <;> cases h; rfl
        exact .inl ⟨t, (hm t m).2 (.inr ⟨rfl, this⟩)⟩
      · exact .inr ⟨t', (hc t' m).2 ⟨h, e⟩⟩
  · intro m
    rw [he]
    by_cases e : m = d
    · simp [upd, e, hex]
    · simpa [upd, e] using inv.execs_le m
  · intro m h
    have e : m ≠ d := fun e => by simp [hl, e, hld] at h
    simpa [he, upd, e] using inv.loaded_execs m (hl ▸ h)
  · intro m h
    have e : m ≠ d := fun e => by simp [hr, e, inv1.new_reg t d (.inr hpc)] at h
    simpa [he, upd, e] using inv.unreg m (hr ▸ h)

theorem inv2_pop {s s' : State} {t : Tid} {r : Res} {x : Mod} (inv : Inv2 s) (hpc : s.pc t = .fin r)
    (hp : s'.pc = upd s.pc t (.unset r)) (hs : mods s t = x :: mods s' t) (hs' : ∀ t', t' ≠ t → mods s' t' = mods s t')
    (hl : s'.loaded = upd s.loaded x true) (he : s'.execs = s.execs) (hr : s'.registry = s.registry) : Inv2 s' := by
  have hnd := inv.nodup t
  rw [hs, List.nodup_cons] at hnd
  have hm : ∀ t' m, m ∈ mods s' t' → m ∈ mods s t' ∧ m ≠ x := by
    intro t' m h
    by_cases e : t' = t
    · subst t'; exact ⟨by simp [hs, h], fun e => hnd.1 (e ▸ h)⟩
    · rw [hs' t' e] at h
      exact ⟨h, fun e' => inv.mods_disjoint t' t m e h (by simp [hs, e'])⟩
  have hc : ∀ t' d, claims s' t' d ↔ claims s t' d := fun t' d => by
    by_cases e : t' = t <;> simp [claims, hp, e, hpc]
  constructor
  · intro t'
    by_cases e : t' = t
    · exact e ▸ hnd.2
    · exact hs' t' e ▸ inv.nodup t'
  · intro t1 t2 m hne h1 h2
    exact inv.mods_disjoint t1 t2 m hne (hm t1 m h1).1 (hm t2 m h2).1
  · intro t' d h
    obtain ⟨h1, h2, h3⟩ := inv.claim_fresh t' d ((hc t' d).1 h)
    have hne : d ≠ x := fun e => h3 t (by simp [hs, e])
    exact ⟨by simpa [hl, upd, hne] using h1, he ▸ h2, fun t'' h'' => h3 t'' (hm t'' d h'').1⟩
  · intro t1 t2 d h1 h2
    exact inv.new_uniq t1 t2 d ((hc t1 d).1 h1) ((hc t2 d).1 h2)
  · intro t' m h
    obtain ⟨h, hne⟩ := hm t' m h
    simpa [hl, he, upd, hne] using inv.frame_live t' m h
  · intro m hr' hl'
    have hne : m ≠ x := fun e => by simp [hl, upd, e] at hl'
    simp only [hl, upd, hne, ↓reduceIte] at hl'
    refine (inv.owner m (hr ▸ hr') hl').imp (fun ⟨t', h⟩ => ⟨t', ?_⟩) (fun ⟨t', h⟩ => ⟨t', (hc t' m).2 h⟩)
    by_cases e : t' = t
    · subst t'; simpa [hs, hne] using h
    · rwa [hs' t' e]
  · exact he ▸ inv.execs_le
  · intro m h
    rw [he]
    by_cases e : m = x
    · exact e ▸ (inv.frame_live t x (by simp [hs])).2
    · exact inv.loaded_execs m (by simpa [hl, upd, e] using h)
  · exact he ▸ hr ▸ inv.unreg

theorem inv2_fstep {P : Project} {s s' : State} {t : Tid} (inv1 : Inv1 P s) (inv : Inv2 s) (st : FStep P s t s') :
    Inv2 s' := by
  cases st
  case callNew d hpc hr => exact inv2_register inv1 inv hpc hr rfl rfl (fun _ => rfl) rfl rfl
  case load d hpc =>
    exact inv2_push inv1 inv hpc rfl (by simp [mods]) (fun t' h => by simp [mods, h]) rfl rfl rfl
  case fin r f rest hpc hst =>
    exact inv2_pop inv hpc rfl (by simp [mods, hst]) (fun t' h => by simp [mods, h]) rfl rfl rfl
  case unsetOk f rest hpc hst =>
    refine inv.congr (fun t' => ?_) (claims_upd (by simp [hpc])) rfl rfl rfl
    simp only [mods, upd]; split
    · subst t'; simp [hst]
    · rfl
  -- the other steps neither move a module nor make or drop a claim
  all_goals exact inv.congr (fun _ => rfl) (claims_upd (by simp [publish, *])) rfl rfl rfl

theorem inv2_reachable {P : Project} {s : State} (h : Reachable .fixed P s) : Inv2 s :=
  reachable_induction (I := Inv2) (inv2_init P) (fun _ _ _ hr ih st => inv2_fstep (inv1_reachable hr) ih st) h

structure InvA (s : State) : Prop where
  /-- on the list: asleep on that module, which is not loaded yet -/
  listed : ∀ d t, t ∈ s.asleep d → s.pc t = .sleep d ∧ s.loaded d = false
  /-- asleep and not on the list (woken): only after the module finished -/
  woken : ∀ t d, s.pc t = .sleep d → t ∈ s.asleep d ∨ s.loaded d = true

theorem invA_init (P : Project) : InvA (init P) := by
  constructor
  · intro d t h; simp [init] at h
  · intro t d h
    simp only [init] at h
    split at h <;> cases h

theorem FStep.not_listed {P : Project} {s s' : State} {t : Tid} (st : FStep P s t s') {d : Mod}
    (h : s.pc t = .sleep d) : t ∉ s.asleep d := by
  cases st <;> simp_all

theorem FStep.asleep_cases {P : Project} {s s' : State} {t : Tid} (st : FStep P s t s') (d : Mod) :
    (s'.asleep d = s.asleep d ∧ s'.loaded d = s.loaded d) ∨
    (s'.asleep d = s.asleep d ++ [t] ∧ s'.pc t = .sleep d ∧ s'.loaded d = false) ∨
    (s'.asleep d = [] ∧ s'.loaded d = true) := by
  cases st
  case wlockSleep d' _ hl => by_cases e : d = d' <;> simp [goSleep, upd, e, hl]
  case wakeAgain d' _ _ hl => by_cases e : d = d' <;> simp [goSleep, upd, e, hl]
  case fin r f rest _ _ => by_cases e : d = f.mod <;> simp [upd, e]
  all_goals exact .inl ⟨rfl, rfl⟩

theorem invA_fstep {P : Project} {s s' : State} {t : Tid} (inv : InvA s) (st : FStep P s t s') : InvA s' := by
  have keep : ∀ d t', t' ∈ s.asleep d → s'.pc t' = .sleep d := fun d t' h => by
    have h' := (inv.listed d t' h).1
    rcases st.frame t' with rfl | ⟨hp, _⟩
    · exact absurd h (st.not_listed h')
    · exact hp ▸ h'
  constructor
  · intro d t' h
    rcases st.asleep_cases d with ⟨e, el⟩ | ⟨e, hp, hl⟩ | ⟨e, _⟩ <;> rw [e] at h
    · exact ⟨keep d t' h, el ▸ (inv.listed d t' h).2⟩
    · rcases List.mem_append.1 h with h | h
      · exact ⟨keep d t' h, hl⟩
      · exact List.mem_singleton.1 h ▸ ⟨hp, hl⟩
    · cases h
  · intro t' d h
    rcases st.frame t' with rfl | ⟨hp, _⟩
    · -- going to sleep is joining the list
      cases st <;> simp only [setPc, publish, goSleep, upd_same, reduceCtorEq, PC.sleep.injEq] at h
      all_goals exact .inl (by simp [goSleep, h])
    · rcases inv.woken t' d (hp ▸ h) with h | h
      · rcases st.asleep_cases d with ⟨e, _⟩ | ⟨e, _⟩ | ⟨_, hl⟩
        · exact .inl (e ▸ h)
        · exact .inl (e ▸ List.mem_append_left _ h)
        · exact .inr hl
      · exact .inr (st.loaded_mono h)

theorem invA_reachable {P : Project} {s : State} (h : Reachable .fixed P s) : InvA s :=
  reachable_induction (I := InvA) (invA_init P) (fun _ _ _ _ ih st => invA_fstep ih st) h

end Dawn.Loader
