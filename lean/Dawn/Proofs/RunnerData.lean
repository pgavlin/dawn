import Dawn.Proofs.RunnerInv
/-!
# Runner: what a thread knows about its dependencies

`DataOk` ties the thread-local data of a program counter (remaining work lists, the errors handed back by
`wait()`, the outcome about to be stored) to the shared state. From it follow C04 "dependencies first",
"the outcome handed over is the actual outcome" and the local characterisation of every target's outcome.
-/
namespace Dawn.Runner

def DataOk (P : Params) (s : State) (x : Label) : PC → Prop
  | .startDeps todo => ∃ pre, P.deps x = pre ++ todo ∧ ∀ d ∈ pre, s.status d ≠ .idle
  | .walk _ => ∀ d ∈ P.deps x, s.status d ≠ .idle
  | .waitDeps todo hs =>
      ∃ pre, P.deps x = pre ++ todo ∧ hs = pre.map s.err ∧ (∀ d ∈ pre, (s.status d).final = true) ∧
        ∀ d ∈ P.deps x, s.status d ≠ .idle
  | .enter2 (some hs) | .evalRest (some hs) => hs = (P.deps x).map s.err ∧ ∀ d ∈ P.deps x, (s.status d).final = true
  | .finish st e => OutcomeSpec P s x st e
  | .exit2 | .wgDone | .done => OutcomeSpec P s x (s.status x) (s.err x)
  | _ => True

def Inv2 (P : Params) (s : State) : Prop := ∀ x p, s.pc x = some p → DataOk P s x p

def Stable (s s' : State) : Prop :=
  ∀ d, ((s.status d).final = true → s'.status d = s.status d ∧ s'.err d = s.err d) ∧
       (s.status d ≠ .idle → s'.status d ≠ .idle)

theorem notIdle_stable {s s' : State} (hst : Stable s s') (ds : List Label)
    (h : ∀ d ∈ ds, s.status d ≠ .idle) : ∀ d ∈ ds, s'.status d ≠ .idle :=
  fun d hd => (hst d).2 (h d hd)

theorem map_err_stable {s s' : State} (hst : Stable s s') (ds : List Label)
    (h : ∀ d ∈ ds, (s.status d).final = true) : ds.map s'.err = ds.map s.err :=
  List.map_congr_left fun d hd => ((hst d).1 (h d hd)).2

theorem final_stable {s s' : State} (hst : Stable s s') (ds : List Label)
    (h : ∀ d ∈ ds, (s.status d).final = true) : ∀ d ∈ ds, (s'.status d).final = true := by
  intro d hd
  rw [((hst d).1 (h d hd)).1]; exact h d hd

theorem OutcomeSpec.stable {P : Params} {s s' : State} {x : Label} {st : Status} {e : Err}
    (hst : Stable s s') (hc : s'.cyc x = s.cyc x) (h : OutcomeSpec P s x st e) : OutcomeSpec P s' x st e := by
  rcases h with h | h | ⟨hk, hcy, hf, ho⟩
  · exact Or.inl h
  · exact Or.inr (Or.inl (by rw [hc]; exact h))
  · refine Or.inr (Or.inr ⟨hk, by rw [hc]; exact hcy, final_stable hst _ hf, ?_⟩)
    rw [map_err_stable hst _ hf]; exact ho

theorem DataOk.stable {P : Params} {s s' : State} {x : Label} {p : PC}
    (hst : Stable s s') (hc : s'.cyc x = s.cyc x) (hx : p.final = true → (s.status x).final = true)
    (h : DataOk P s x p) : DataOk P s' x p := by
  cases p with
  | startDeps todo =>
    obtain ⟨pre, h1, h2⟩ := h
    exact ⟨pre, h1, notIdle_stable hst _ h2⟩
  | walk todo => exact notIdle_stable hst _ h
  | waitDeps todo hs =>
    obtain ⟨pre, h1, h2, h3, h4⟩ := h
    exact ⟨pre, h1, by rw [map_err_stable hst _ h3]; exact h2, final_stable hst _ h3, notIdle_stable hst _ h4⟩
  | enter2 res | evalRest res =>
    cases res with
    | none => trivial
    | some hs => exact ⟨by rw [map_err_stable hst _ h.2]; exact h.1, final_stable hst _ h.2⟩
  | finish st e => exact OutcomeSpec.stable hst hc h
  | exit2 | wgDone | done =>
    obtain ⟨h1, h2⟩ := (hst x).1 (hx rfl)
    show OutcomeSpec P s' x (s'.status x) (s'.err x)
    rw [h1, h2]; exact OutcomeSpec.stable hst hc h
  | _ => trivial

theorem DataOk.outcome {P : Params} {s : State} {x : Label} {p : PC} (hf : p.final = true) (h : DataOk P s x p) :
    OutcomeSpec P s x (s.status x) (s.err x) := by
  cases p <;> first | exact h | cases hf

theorem Stable.refl (s : State) : Stable s s := fun _ => ⟨fun _ => ⟨rfl, rfl⟩, fun h => h⟩

theorem stable_startTarget (s : State) (d : Label) : Stable s (startTarget s d) := by
  rcases startTarget_cases s d with ⟨_, e⟩ | ⟨hidle, e⟩ <;> rw [e]
  · exact Stable.refl s
  · intro x
    refine ⟨fun hx => ?_, fun hx => ?_⟩
    · have : x ≠ d := by intro c; rw [c, hidle] at hx; cases hx
      exact ⟨upd_other _ _ _ _ this, rfl⟩
    · have : x ≠ d := fun c => hx (c ▸ hidle)
      show upd s.status d .running x ≠ .idle
      rw [upd_other _ _ _ _ this]; exact hx

theorem tstep_stable {P : Params} {s s' : State} {l : Label} {p : PC} (inv : Inv P s) (hp : s.pc l = some p)
    (h : TStep P s l p s') : Stable s s' := by
  cases h with
  | start d rest => exact stable_startTarget s d
  | finish st e =>
    intro x
    refine ⟨fun hx => ?_, fun hx => ?_⟩
    · have : x ≠ l := by intro c; rw [c, inv.running_of hp rfl] at hx; cases hx
      exact ⟨upd_other _ _ _ _ this, upd_other _ _ _ _ this⟩
    · show upd s.status l st x ≠ .idle
      by_cases c : x = l
      · rw [c, upd_same]; intro hi; have := inv.fin l st e hp; rw [hi] at this; cases this
      · rw [upd_other _ _ _ _ c]; exact hx
  | _ => exact Stable.refl s

theorem startTarget_notIdle (s : State) (d : Label) : (startTarget s d).status d ≠ .idle := by
  rcases startTarget_cases s d with ⟨h, e⟩ | ⟨_, e⟩ <;> rw [e]
  · exact h
  · show upd s.status d .running d ≠ .idle
    rw [upd_same]; nofun

theorem inv2_local {P : Params} {s s' : State} (inv : Inv P s) (inv2 : Inv2 P s) {l : Label} (hst : Stable s s')
    (p' : PC) (hpc : s'.pc = upd s.pc l (some p')) (hl : DataOk P s' l p')
    (hcyc : ∀ x, x ≠ l → s'.cyc x = s.cyc x := by exact fun _ _ => rfl) : Inv2 P s' := by
  intro x q hq
  rw [hpc] at hq
  by_cases e : x = l
  · subst e; rw [upd_same] at hq; cases hq; exact hl
  · rw [upd_other _ _ _ _ e] at hq
    exact DataOk.stable hst (hcyc x e) (fun hf => inv.final_of hq hf) (inv2 x q hq)

theorem inv2_startTarget {P : Params} {s : State} (inv : Inv P s) (inv2 : Inv2 P s) (d : Label) :
    Inv2 P (startTarget s d) := by
  have hst := stable_startTarget s d
  rcases startTarget_cases s d with ⟨_, e⟩ | ⟨hidle, e⟩ <;> rw [e] at hst ⊢
  · exact inv2
  · exact inv2_local inv inv2 hst .enter1 rfl trivial

theorem inv2_tstep {P : Params} {s s' : State} {l : Label} {p : PC} (inv : Inv P s) (inv2 : Inv2 P s)
    (hp : s.pc l = some p) (h : TStep P s l p s') : Inv2 P s' := by
  have hd := inv2 l p hp
  have hst := tstep_stable inv hp h
  have hpnd := h.ne_done
  cases h with
  | load =>
    cases hk : P.known l with
    | false => exact inv2_local inv inv2 (Stable.refl s) (.finish .failed .unknown) rfl (Or.inl ⟨hk, rfl, rfl⟩)
    | true => exact inv2_local inv inv2 (Stable.refl s) .evalStart rfl trivial
  | exit1 => exact inv2_local inv inv2 hst _ rfl ⟨[], rfl, nofun⟩
  | start d rest =>
    refine inv2_local (inv.start hp hpnd d) (inv2_startTarget inv inv2 d) (Stable.refl _) _ rfl ?_
    obtain ⟨pre, h1, h2⟩ := hd
    refine ⟨pre ++ [d], by rw [h1, List.append_assoc]; rfl, fun x hx => ?_⟩
    rcases List.mem_append.mp hx with hx | hx
    · exact (hst x).2 (h2 x hx)
    · cases List.mem_singleton.mp hx; exact startTarget_notIdle s d
  | publish =>
    obtain ⟨pre, h1, h2⟩ := hd
    rw [List.append_nil] at h1
    subst h1; exact inv2_local inv inv2 hst _ rfl h2
  | readPub _ _ _ _ _ | readNil _ _ _ _ | exit2 | wgDone => exact inv2_local inv inv2 hst _ rfl hd
  | walked => exact inv2_local inv inv2 hst _ rfl ⟨[], rfl, rfl, nofun, hd⟩
  | waited d rest hs hr =>
    obtain ⟨pre, h1, h2, h3, h4⟩ := hd
    refine inv2_local inv inv2 hst _ rfl ⟨pre ++ [d], by rw [h1, List.append_assoc]; rfl,
      by rw [h2, List.map_append]; rfl, fun x hx => ?_, h4⟩
    rcases List.mem_append.mp hx with hx | hx
    · exact h3 x hx
    · cases List.mem_singleton.mp hx
      have hni : s.status d ≠ .idle := h4 d (by rw [h1]; simp)
      cases hs' : s.status d <;> first | rfl | exact absurd hs' hni | exact absurd hs' hr
  | unpub hs =>
    obtain ⟨pre, h1, h2, h3, _⟩ := hd
    rw [List.append_nil] at h1
    subst h1; exact inv2_local inv inv2 hst _ rfl ⟨h2, h3⟩
  | enter2 res hc => cases res <;> exact inv2_local inv inv2 hst _ rfl hd
  | evalRest res =>
    have hk : P.known l = true := inv.known l _ hp rfl
    have hc0 : s.cyc l = false := by
      cases hc : s.cyc l with
      | false => rfl
      | true => cases inv.afterRest_of_cyc hp hc
    refine inv2_local inv inv2 hst _ rfl ?_ (hcyc := fun x hx => upd_other _ _ _ _ hx)
    cases res with
    | none => exact Or.inr (Or.inl ⟨hk, by show upd s.cyc l _ l = true; rw [upd_same, hc0]; rfl, rfl, rfl⟩)
    | some hs =>
      refine Or.inr (Or.inr ⟨hk, by show upd s.cyc l _ l = false; rw [upd_same, hc0]; rfl, hd.2, ?_⟩)
      show _ = localOutcome (some (List.map s.err (P.deps l))) (P.bodyOk l)
      rw [← hd.1]
  | finish st e =>
    refine inv2_local inv inv2 hst _ rfl ?_
    show OutcomeSpec P _ l (upd s.status l st l) (upd s.err l e l)
    rw [upd_same, upd_same]; exact OutcomeSpec.stable hst rfl hd
  | _ => exact inv2_local inv inv2 hst _ rfl trivial

theorem inv2_mstep {P : Params} {s s' : State} (inv : Inv P s) (inv2 : Inv2 P s) (h : MStep P s s') :
    Inv2 P s' := by
  cases h with
  | start hm => exact inv2_startTarget inv inv2 P.root
  | _ => exact inv2

theorem Reachable.inv2 {P : Params} {s : State} (h : Reachable P s) : Inv2 P s :=
  h.rec_steps (fun _ _ h => nomatch h) (fun hr i hm => inv2_mstep hr.inv i hm) (fun hr i hp ht => inv2_tstep hr.inv i hp ht)

/-- a finished target's recorded outcome satisfies the outcome specification -/
theorem Reachable.outcome {P : Params} {s : State} (hr : Reachable P s) (x : Label)
    (hf : (s.status x).final = true) : OutcomeSpec P s x (s.status x) (s.err x) := by
  obtain ⟨p, hp, hpf⟩ := hr.inv.pc_of_final hf
  exact (hr.inv2 x p hp).outcome hpf

theorem succeeded_of_final_none {P : Params} {s : State} (hr : Reachable P s) {x : Label}
    (hf : (s.status x).final = true) (he : s.err x = .none) :
    s.status x = .succeeded ∧ P.known x = true ∧ s.cyc x = false ∧
      ∀ d ∈ P.deps x, (s.status d).final = true ∧ s.err d = .none := by
  rcases hr.outcome x hf with ⟨_, _, h⟩ | ⟨_, _, _, h⟩ | ⟨hk, hc, hfin, ho⟩
  · rw [he] at h; cases h
  · rw [he] at h; cases h
  · rw [he] at ho
    simp only [localOutcome] at ho
    split at ho
    next hall =>
      split at ho
      · injection ho with h1 _
        refine ⟨h1, hk, hc, fun d hd => ⟨hfin d hd, ?_⟩⟩
        have := List.all_eq_true.mp hall (s.err d) (List.mem_map_of_mem hd)
        simpa using this
      · injection ho with _ h2; cases h2
    · injection ho with _ h2; cases h2

end Dawn.Runner
