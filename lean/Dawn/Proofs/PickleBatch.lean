import Dawn.Proofs.PickleTop
/-! D2, the old batch loop (`EncCfg.rebatch`): before every batch after the first the container itself is encoded
again, a BINGET of its memo id, which nothing pops. For a list of two batches of atoms inside a pair, run here op by
op, that reference is what TUPLE2 takes as the pair's first component. -/
namespace Dawn.Pickle

theorem encSeq_atoms (cfg : EncCfg) (g : Heap) (n : Nat) (st : EncSt) (as : List Atom) :
    encSeq (encVal cfg g n) st (as.map .atom) = some (st, as.map encAtom) := by
  induction as with
  | nil => rfl
  | cons a as ih => simp only [List.map_cons, encSeq_cons, encVal_atom, Option.bind_some, ih, Option.map_some]; rfl

theorem runs_atoms {cfg : DecCfg} (hd : DecOK cfg) (as : List Atom) (hsz : ∀ a ∈ as, a.sizeOK = true) (ds : DecSt) :
    Runs cfg ds (as.map encAtom) { ds with stack := (as.map .atom).reverse ++ ds.stack } := by
  induction as generalizing ds with
  | nil => exact .nil _
  | cons a as ih =>
    obtain ⟨ha, has⟩ := List.forall_mem_cons.mp hsz
    obtain ⟨hstep, hw⟩ := atom_step hd ds a ha
    refine .cons hw hstep ?_
    have := ih has { ds with stack := .atom a :: ds.stack }
    simpa using this

theorem encVal_rebatch (g : Heap) (n : Nat) (st : EncSt) (xs : List Atom) (hg : g[st.next]? = some (.list (xs.map .atom)))
    (hl : lookup st.memo st.next = none) (h1 : batchSize < xs.length) (h2 : xs.length ≤ 2 * batchSize) :
    encVal { rebatch := true } g (n + 1) st (.ref st.next) =
      some (⟨(st.next, st.memo.length) :: st.memo, st.next + 1⟩,
        [.emptyList, .memoize, .mark] ++ (xs.take batchSize).map encAtom ++ [.appends, encGet st.memo.length, .mark] ++
          (xs.drop batchSize).map encAtom ++ [.appends]) := by
  have hlen : ∀ {l : List Val}, List.map Val.atom xs = l → batchSize < l.length := fun h => by simpa [← h] using h1
  rw [encVal]
  simp only [hl, hg, if_true]
  split
  · exact absurd (hlen ‹_›) (by simp [batchSize])
  · exact absurd (hlen ‹_›) (by simp [batchSize])
  · rw [chunks_two batchSize (xs.map Val.atom) (by simpa using h1) (by simpa using h2), ← List.map_take, ← List.map_drop]
    simp [encBatches, encSeq_atoms, -List.map_take, -List.map_drop]

theorem encodeOps_rebatch (k : Atom) (xs : List Atom) (h1 : batchSize < xs.length) (h2 : xs.length ≤ 2 * batchSize) :
    encodeOps { rebatch := true } ⟨[.list (xs.map .atom), .tuple [.atom k, .ref 0]], .ref 1⟩ =
      some (([encAtom k, .emptyList, .memoize, .mark] ++ (xs.take batchSize).map encAtom ++ [.appends, .binget 0, .mark] ++
        (xs.drop batchSize).map encAtom ++ [.appends, .tuple2]) ++ [.stop]) := by
  have : encVal { rebatch := true } [.list (xs.map .atom), .tuple [.atom k, .ref 0]] 2 ⟨[], 0⟩ (.ref 0) =
      some (⟨[(0, 0)], 1⟩, _) := encVal_rebatch _ 1 ⟨[], 0⟩ xs rfl rfl h1 h2
  rw [encodeOps, encVal]
  simp [lookup, encSeq, encVal_atom, this, encGet]

theorem runs_batch {cfg : DecCfg} (hd : DecOK cfg) (as : List Atom) (hsz : ∀ a ∈ as, a.sizeOK = true) (ds : DecSt)
    (a : Nat) (below done : List Val) (hs : ds.stack = .ref a :: below) (hh : ds.heap[a]? = some (.list done)) :
    Runs cfg ds ([.mark] ++ as.map encAtom ++ [.appends])
      { ds with heap := ds.heap.set a (.list (done ++ as.map .atom)) } := by
  refine ((Runs.one (op := .mark) trivial rfl).append (runs_atoms hd as hsz _)).append (.one (op := .appends) trivial ?_)
  have hm : ∀ x ∈ (as.map Val.atom).reverse, x ≠ .mark := by simp
  simp only [stepOp, splitMark_append _ _ hm, hs, hh, List.reverse_reverse]

theorem runs_rebatch {cfg : DecCfg} (hd : DecOK cfg) (k : Atom) (as₁ as₂ : List Atom) (hk : k.sizeOK = true)
    (h₁ : ∀ a ∈ as₁, a.sizeOK = true) (h₂ : ∀ a ∈ as₂, a.sizeOK = true) :
    Runs cfg {} ([encAtom k, .emptyList, .memoize, .mark] ++ as₁.map encAtom ++ [.appends, .binget 0, .mark] ++
        as₂.map encAtom ++ [.appends, .tuple2])
      { stack := [.ref 1, .atom k], memo := [.ref 0],
        heap := [.list (as₁.map .atom ++ as₂.map .atom), .tuple [.ref 0, .ref 0]] } := by
  obtain ⟨hstep, hw⟩ := atom_step hd {} k hk
  have r1 : Runs cfg {} [encAtom k, .emptyList, .memoize]
      { stack := [.ref 0, .atom k], memo := [.ref 0], heap := [.list []] } :=
    .cons hw hstep (.cons trivial rfl (.one trivial rfl))
  have r2 := runs_batch hd as₁ h₁ { stack := [.ref 0, .atom k], memo := [.ref 0], heap := [.list []] } 0 [.atom k] [] rfl rfl
  have r3 : Runs cfg { stack := [.ref 0, .atom k], memo := [.ref 0], heap := [.list (as₁.map .atom)] } [.binget 0]
      { stack := [.ref 0, .ref 0, .atom k], memo := [.ref 0], heap := [.list (as₁.map .atom)] } :=
    .one (by decide) rfl
  have r4 := runs_batch hd as₂ h₂ { stack := [.ref 0, .ref 0, .atom k], memo := [.ref 0], heap := [.list (as₁.map .atom)] } 0
    [.ref 0, .atom k] (as₁.map .atom) rfl rfl
  have r5 : Runs cfg
      { stack := [.ref 0, .ref 0, .atom k], memo := [.ref 0], heap := [.list (as₁.map .atom ++ as₂.map .atom)] }
      [.tuple2] _ := .one trivial rfl
  have := (((r1.append r2).append r3).append r4).append r5
  simpa using this

theorem decode_rebatch {cfg : DecCfg} (hd : DecOK cfg) (k : Atom) (xs : List Atom) (hk : k.sizeOK = true)
    (hx : ∀ a ∈ xs, a.sizeOK = true) (h1 : batchSize < xs.length) (h2 : xs.length ≤ 2 * batchSize) :
    (encode { rebatch := true } ⟨[.list (xs.map .atom), .tuple [.atom k, .ref 0]], .ref 1⟩).map (decode cfg) =
      some (.ok [.list (xs.map .atom), .tuple [.ref 0, .ref 0]] (.ref 1)) := by
  have r := runs_rebatch hd k (xs.take batchSize) (xs.drop batchSize) hk (fun a ha => hx a (List.mem_of_mem_take ha))
    (fun a ha => hx a (List.mem_of_mem_drop ha))
  rw [encode, encodeOps_rebatch k xs h1 h2, Option.map_some, Option.map_some, decode_runs r rfl, ← List.map_append,
    List.take_append_drop]

end Dawn.Pickle
