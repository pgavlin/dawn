import Dawn.Model.Env
/-!
The witnesses of D3 and D16 for C08 (`Dawn/Props/Env.lean`), with what the model computes on them.
-/
namespace Dawn.Env

/-! ## D16: `EqualDepth` on cyclic data -/

def sGlobalValues : Bytes := "global values".toUTF8.toList
def sV : Bytes := "V".toUTF8.toList
def sFact : Bytes := "fact".toUTF8.toList

/-- a decoded environment whose global `V` is the list `V = []; V.append(V)`:
`{"global values": {"V": V}}` with `V = [V]` -/
def gCyc : Heap :=
  [.dict [(.atom (.str sGlobalValues), .ref 1)],
   .dict [(.atom (.str sV), .ref 2)],
   .list [.ref 2]]

theorem equalDepth_selfList (n : Nat) : equalDepth gCyc gCyc n (.ref 2) (.ref 2) = .error .depthExceeded := by
  induction n with
  | zero => rfl
  | succ n ih =>
    simp only [gCyc] at ih ⊢
    simp [equalDepth, cmpSeq, ih]

/-- a depth error below is a depth error above: from the list up through the two dicts -/
theorem equalDepth_gCyc (n : Nat) : equalDepth gCyc gCyc n (.ref 0) (.ref 0) = .error .depthExceeded := by
  have inner : ∀ n, equalDepth gCyc gCyc n (.ref 1) (.ref 1) = .error .depthExceeded := fun n => by
    cases n with
    | zero => rfl
    | succ n =>
      have h := equalDepth_selfList n
      simp only [gCyc] at h
      simp [equalDepth, gCyc, cmpDict, findKey, keyEq, atomEq, h]
  cases n with
  | zero => rfl
  | succ n =>
    have h := inner n
    simp only [gCyc] at h
    simp [equalDepth, gCyc, cmpDict, findKey, keyEq, atomEq, h]

/-! ## D3: the stateless pickler on a function that calls itself -/

/-- `def fact(n): … fact(n - 1)`: the function (0), its code (1), the empty tuple of its defaults and free
variables (2), the association list of its globals `(("fact", fact),)` (4 → 3 → 0) -/
def gFact : Heap :=
  [.func sFact (.ref 2) (.ref 2) (.ref 1),
   .code sFact (.ref 2) (.ref 4) [] (.ref 2),
   .tuple [],
   .tuple [.atom (.str sFact), .ref 0],
   .tuple [.ref 3]]

theorem encVal_gFact (n : Nat) : encVal Cfg.original gFact n {} (.ref 0) = .error .outOfFuel := by
  induction n using Nat.strongRecOn with
  | _ n ih =>
    match n with
    | 0 => rfl
    | 1 | 2 | 3 => rfl
    | j+4 =>
      have h := ih j (by omega)
      simp only [gFact, Cfg.original] at h
      simp [encVal, encSeq, gFact, lookup, Cfg.original, h]

end Dawn.Env
