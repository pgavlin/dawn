import Dawn.Model.Config
import Dawn.Proofs.Label
/-! Lemmas for C19 (project configuration); the property theorems are in `Dawn/Props/Config.lean`.

`parseSub` inverts `emitWith` piece by piece: strings (`pString_enc`), arrays, keys, inline tables, then whole
lines (`pLine_kv`: a line is read from the key `pKey` finds on it), then the file, one accepted line at a time
(`foldLines_step`), for any quoting rule that quotes every name that is not a bare key (`parseSub_emitWith`). -/
namespace Dawn.Config

theorem pLiteralBody_enc (s rest : Bytes) (h : needsQuoting s = false) :
    pLiteralBody (s ++ 39 :: rest) = some (s, rest) := by
  induction s with
  | nil => simp [pLiteralBody]
  | cons b s ih =>
    rw [needsQuoting, List.any_cons, Bool.or_eq_false_iff] at h
    obtain ⟨hb, hs⟩ := h
    simp only [needsQuotingByte, decide_eq_false_iff_not, not_or] at hb
    have hraw : rawBad b = false := by simp [rawBad, hb.2.1, hb.2.2.1, hb.2.2.2]
    rw [List.cons_append, pLiteralBody, if_neg hb.1, hraw, ih hs]
    rfl

theorem pBasicBody_raw {b : UInt8} (rest : Bytes) (h34 : b ≠ 34) (h92 : b ≠ 92) (hr : rawBad b = false) :
    pBasicBody (b :: rest) = consFst b (pBasicBody rest) := by
  rw [pBasicBody.eq_def]
  simp only [h34, h92, hr, ↓reduceIte, Bool.false_eq_true]

theorem pBasicBody_short {e x : UInt8} (rest : Bytes) (he : e ≠ 117) (hx : unescape e = some x) :
    pBasicBody (92 :: e :: rest) = consFst x (pBasicBody rest) := by
  rw [pBasicBody.eq_def]
  simp only [show ¬ (92 : UInt8) = 34 by decide, ↓reduceIte, he, hx]

theorem pBasicBody_hex {h l x y : UInt8} (rest : Bytes) (hh : hexVal h = some x) (hl : hexVal l = some y) (hx : x < 8) :
    pBasicBody (92 :: 117 :: 48 :: 48 :: h :: l :: rest) = consFst (x * 16 + y) (pBasicBody rest) := by
  rw [pBasicBody.eq_def]
  simp only [show ¬ (92 : UInt8) = 34 by decide, ↓reduceIte, and_self, hh, hl, hx]

/-- the two hex digits written for `b` read back as `b`, a byte below 0x80 -/
abbrev HexOK (b : UInt8) : Prop :=
  hexVal (hexUpper (b >>> 4)) = some (b >>> 4) ∧ hexVal (hexUpper (b &&& 15)) = some (b &&& 15) ∧
    b >>> 4 < 8 ∧ (b >>> 4) * 16 + (b &&& 15) = b

/-- the control bytes and DEL, among them every byte that is written as `\u00XX`: evaluated -/
theorem hexOK_control {b : UInt8} (h : b ≤ 8 ∨ (10 ≤ b ∧ b ≤ 31) ∨ b = 127) : HexOK b := by
  have hb : b ≤ 31 ∨ b = 127 := by
    rcases h with h | h | h
    · exact Or.inl (UInt8.le_trans h (by decide))
    · exact Or.inl h.2
    · exact Or.inr h
  rcases hb with hb | rfl
  · have := (show ∀ n, n < 32 → HexOK (UInt8.ofNat n) by decide +kernel) b.toNat
      (Nat.lt_succ_of_le (UInt8.le_iff_toNat_le.mp hb))
    rwa [UInt8.ofNat_toNat] at this
  · decide +kernel

/-- the escape table of `encodeQuotedString`: a single-character escape that `unescape` inverts, `\u00XX` for the
other control bytes, and every other byte as it is — these are bytes a basic string may contain raw -/
theorem escByte_cases (b : UInt8) :
    (∃ e, escByte b = [92, e] ∧ e ≠ 117 ∧ unescape e = some b) ∨
    (∃ h l x y, escByte b = [92, 117, 48, 48, h, l] ∧ hexVal h = some x ∧ hexVal l = some y ∧ x < 8 ∧ x * 16 + y = b) ∨
    (escByte b = [b] ∧ b ≠ 34 ∧ b ≠ 92 ∧ rawBad b = false) := by
  by_cases hs : b = 92 ∨ b = 34 ∨ b = 8 ∨ b = 12 ∨ b = 10 ∨ b = 13 ∨ b = 9
  · rcases hs with rfl | rfl | rfl | rfl | rfl | rfl | rfl <;> exact Or.inl ⟨_, rfl, by decide, rfl⟩
  · simp only [not_or] at hs
    obtain ⟨h92, h34, h8, h12, h10, h13, h9⟩ := hs
    rw [escByte, if_neg h92, if_neg h34, if_neg h8, if_neg h12, if_neg h10, if_neg h13, if_neg h9]
    by_cases hc : b ≤ 8 ∨ (10 ≤ b ∧ b ≤ 31) ∨ b = 127
    · exact Or.inr (Or.inl ⟨_, _, _, _, if_pos hc, hexOK_control hc⟩)
    · refine Or.inr (Or.inr ⟨if_neg hc, h34, h92, ?_⟩)
      -- a byte the parser rejects raw is a newline, a carriage return, a form feed or one of `hc`
      rw [rawBad, decide_eq_false_iff_not]
      rintro (h | h | h)
      · exact h10 h
      · exact h13 h
      · rw [invalidAscii, decide_eq_true_iff] at h
        rcases h with h | rfl | h | ⟨h, h'⟩ | h
        · exact hc (Or.inl h)
        · exact hc (Or.inr (Or.inl (by decide)))
        · exact h12 h
        · exact hc (Or.inr (Or.inl ⟨UInt8.le_trans (by decide) h, h'⟩))
        · exact hc (Or.inr (Or.inr h))

theorem pBasicBody_esc (b : UInt8) (rest : Bytes) : pBasicBody (escByte b ++ rest) = consFst b (pBasicBody rest) := by
  rcases escByte_cases b with ⟨e, he, h117, hu⟩ | ⟨h, l, x, y, he, hh, hl, hx, rfl⟩ | ⟨he, h34, h92, hr⟩ <;> rw [he]
  · exact pBasicBody_short rest h117 hu
  · exact pBasicBody_hex rest hh hl hx
  · exact pBasicBody_raw rest h34 h92 hr

/-- a newline is not an escape character, not a hex digit, and not accepted raw -/
theorem escByte_no_nl (b : UInt8) : (10 : UInt8) ∉ escByte b := by
  rcases escByte_cases b with ⟨e, he, _, hu⟩ | ⟨h, l, x, y, he, hh, hl, _⟩ | ⟨he, _, _, hr⟩ <;> rw [he]
  · have : 10 ≠ e := by rintro rfl; cases hu
    simp [this]
  · have : 10 ≠ h ∧ 10 ≠ l := ⟨(by rintro rfl; cases hh), (by rintro rfl; cases hl)⟩
    simp [this]
  · have : 10 ≠ b := by rintro rfl; cases hr
    simp [this]

theorem pBasicBody_enc (s rest : Bytes) : pBasicBody (s.flatMap escByte ++ 34 :: rest) = some (s, rest) := by
  induction s with
  | nil => rw [List.flatMap_nil, List.nil_append, pBasicBody.eq_def]; simp
  | cons b s ih =>
    simp only [List.flatMap_cons, List.append_assoc]
    rw [pBasicBody_esc, ih]
    rfl

theorem pString_enc (s rest : Bytes) : pString (encString s ++ rest) = some (s, rest) := by
  unfold encString
  cases h : needsQuoting s with
  | true =>
    simp only [↓reduceIte, List.cons_append, List.append_assoc, pString, show ¬ ((34 : UInt8) = 39) by decide]
    exact pBasicBody_enc s rest
  | false =>
    simp only [Bool.false_eq_true, ↓reduceIte, List.cons_append, List.append_assoc, pString]
    exact pLiteralBody_enc s rest h


theorem pString_head {s : Bytes} {r : Bytes × Bytes} (h : pString s = some r) : ∃ q t, s = q :: t ∧ (q = 34 ∨ q = 39) := by
  cases s with
  | nil => cases h
  | cons q t =>
    refine ⟨q, t, rfl, ?_⟩
    by_cases h39 : q = 39
    · exact Or.inr h39
    · by_cases h34 : q = 34
      · exact Or.inl h34
      · rw [pString, if_neg h39, if_neg h34] at h; cases h

theorem dropWs_cons_of_not_ws {b : UInt8} (t : Bytes) (h : isWs b = false) : dropWs (b :: t) = b :: t := by
  simp [dropWs, h]

theorem dropWs_space (t : Bytes) : dropWs (32 :: t) = dropWs t := by
  simp [dropWs, isWs]

theorem dropWs_of_pString {s : Bytes} {r : Bytes × Bytes} (h : pString s = some r) : dropWs s = s := by
  obtain ⟨q, t, rfl, hq⟩ := pString_head h
  rcases hq with rfl | rfl <;> exact dropWs_cons_of_not_ws _ (by decide)

theorem dropWs_encString (s rest : Bytes) : dropWs (encString s ++ rest) = encString s ++ rest :=
  dropWs_of_pString (pString_enc s rest)

theorem pSym_spaced (c : UInt8) (t : Bytes) (hc : isWs c = false) : pSym c (32 :: c :: 32 :: t) = some (dropWs t) := by
  simp only [pSym, dropWs_space, dropWs_cons_of_not_ws _ hc, ↓reduceIte]

theorem pItemsTail_comma {s x r : Bytes} (fuel : Nat) (h : pString s = some (x, r)) :
    pItemsTail (fuel + 1) (commaSpace ++ s) = (pItemsTail fuel r).map fun p => (x :: p.1, p.2) := by
  simp only [commaSpace, List.cons_append, List.nil_append, pItemsTail, dropWs_cons_of_not_ws _ (show isWs 44 = false by decide),
    show ¬ (44 : UInt8) = 93 by decide, ↓reduceIte, dropWs_space, dropWs_of_pString h, h]

theorem pItemsTail_enc (l : List Bytes) (rest : Bytes) :
    ∀ fuel, fuel > l.length →
      pItemsTail fuel ((l.map fun s => commaSpace ++ encString s).flatten ++ 93 :: rest) = some (l, rest) := by
  induction l with
  | nil =>
    intro fuel hf
    cases fuel with
    | zero => omega
    | succ fuel => simp [pItemsTail, dropWs_cons_of_not_ws _ (show isWs 93 = false by decide)]
  | cons a l ih =>
    intro fuel hf
    cases fuel with
    | zero => omega
    | succ fuel =>
      rw [List.map_cons, List.flatten_cons, List.append_assoc, List.append_assoc,
        pItemsTail_comma fuel (pString_enc a _), ih fuel (Nat.lt_of_succ_lt_succ hf)]
      rfl

theorem encItems_eq (a : Bytes) (l : List Bytes) :
    encItems (a :: l) = encString a ++ (l.map fun s => commaSpace ++ encString s).flatten := by
  induction l generalizing a with
  | nil => simp [encItems]
  | cons b l ih =>
    rw [encItems, ih b]
    simp
    intro h; cases h

theorem items_length (l : List Bytes) : l.length ≤ ((l.map fun s => commaSpace ++ encString s).flatten).length := by
  induction l with
  | nil => simp
  | cons a l ih =>
    simp only [List.map_cons, List.flatten_cons, List.length_append, List.length_cons]
    have : (commaSpace).length = 2 := rfl
    omega

theorem pArray_cons {s x r : Bytes} (h : pString s = some (x, r)) :
    pArray (91 :: s) = (pItemsTail (r.length + 1) r).map fun p => (x :: p.1, p.2) := by
  obtain ⟨q, t, rfl, hq⟩ := pString_head h
  have hq' : isWs q = false ∧ q ≠ 93 := by rcases hq with rfl | rfl <;> decide
  simp only [pArray, ↓reduceIte, dropWs_cons_of_not_ws t hq'.1, hq'.2, h]

theorem pArray_enc (l : List Bytes) (rest : Bytes) : pArray (encArray l ++ rest) = some (l, rest) := by
  cases l with
  | nil => simp [encArray, pArray, dropWs_cons_of_not_ws _ (show isWs 93 = false by decide)]
  | cons a l =>
    rw [encArray, if_neg (List.cons_ne_nil a l), encItems_eq, List.cons_append, List.append_assoc, List.append_assoc,
      List.singleton_append, pArray_cons (pString_enc a _),
      pItemsTail_enc l rest _ (by have := items_length l; rw [List.length_append]; omega)]
    rfl


theorem pKey_bare (k t : Bytes) (hne : k ≠ []) (hk : ∀ x ∈ k, isPlainByte x = true) :
    pKey (k ++ 32 :: t) = some (k, 32 :: t) := by
  cases k with
  | nil => exact absurd rfl hne
  | cons x k =>
    have hstop : ¬ isPlainByte 32 = true := by decide
    simp only [pKey, List.cons_append, hk x List.mem_cons_self, ↓reduceIte]
    rw [← List.cons_append, List.takeWhile_append_of_pos hk, List.dropWhile_append_of_pos hk,
      List.takeWhile_cons_of_neg hstop, List.dropWhile_cons_of_neg hstop, List.append_nil]

theorem pKey_of_pString {s : Bytes} {r : Bytes × Bytes} (h : pString s = some r) : pKey s = some r := by
  obtain ⟨q, t, rfl, hq⟩ := pString_head h
  have : isPlainByte q = false := by rcases hq with rfl | rfl <;> decide
  rw [pKey, this]
  exact h

theorem pKey_enc (q : Bytes → Bool) (k t : Bytes) (hq : q k = false → k ≠ [] ∧ ∀ x ∈ k, isPlainByte x = true) :
    pKey ((if q k then encString k else k) ++ 32 :: t) = some (k, 32 :: t) := by
  cases h : q k with
  | true => exact pKey_of_pString (pString_enc k _)
  | false => exact pKey_bare k t (hq h).1 (hq h).2

theorem pKey_stop {x : UInt8} (s : Bytes) (h : isWs x = true ∨ x = 91) : pKey (x :: s) = none := by
  rcases h with h | rfl
  · rw [isWs, decide_eq_true_iff] at h
    rcases h with rfl | rfl <;> rfl
  · rfl

theorem mustQuoteOld_false {k : Bytes} (h : mustQuoteOld k = false) : ∀ x ∈ k, isPlainByte x = true := by
  simpa [mustQuoteOld] using h

theorem mustQuote_false {k : Bytes} (h : mustQuote k = false) : k ≠ [] ∧ ∀ x ∈ k, isPlainByte x = true := by
  simp only [mustQuote, decide_eq_false_iff_not, not_or, Bool.not_eq_true] at h
  exact ⟨h.1, mustQuoteOld_false h.2⟩

theorem pField_enc (k v rest : Bytes) (hne : k ≠ []) (hk : ∀ x ∈ k, isPlainByte x = true) :
    pField (k ++ 32 :: 61 :: 32 :: (encString v ++ rest)) = some (k, v, rest) := by
  simp only [pField, pKey_bare k _ hne hk, pSym_spaced 61 _ (by decide), dropWs_encString, pString_enc]

/-- `{path = 'p', version = 'v'}` as `WriteConfigFile` spaces it -/
def inlineText (p v : Bytes) : Bytes :=
  123 :: (kPath ++ 32 :: 61 :: 32 :: (encString p ++ 44 :: 32 :: (kVersion ++ 32 :: 61 :: 32 :: (encString v ++ [125]))))

theorem pInline_enc (p v : Bytes) : pInline (inlineText p v) = some (p, v, []) := by
  have hp : ∀ t : Bytes, dropWs (kPath ++ t) = kPath ++ t := fun t => dropWs_cons_of_not_ws _ (by decide)
  have hv : ∀ t : Bytes, dropWs (kVersion ++ t) = kVersion ++ t := fun t => dropWs_cons_of_not_ws _ (by decide)
  simp only [inlineText, pInline, ↓reduceIte, hp, pField_enc kPath p _ (by decide) (by decide),
    pSym, dropWs_cons_of_not_ws _ (show isWs 44 = false by decide), dropWs_space, hv, pField_enc kVersion v _ (by decide) (by decide),
    dropWs_cons_of_not_ws _ (show isWs 125 = false by decide), and_self]

/-- what `pLine` makes of `key = value` once the key and the `=` are read -/
def pValue (inReqs : Bool) (k v : Bytes) : Line :=
  if inReqs then
    match pInline v with
    | some (p, ver, rest) => if allWs rest then .req ⟨k, p, ver⟩ else .bad
    | none => .bad
  else if k = kIgnore then
    match pArray v with
    | some (l, rest) => if allWs rest then .ignore l else .bad
    | none => .bad
  else match pString v with
    | some (x, rest) =>
      if !allWs rest then .bad
      else if k = kName then .name x
      else if k = kVersion then .version x
      else .bad
    | none => .bad

theorem pLine_kv (inReqs : Bool) (line k v : Bytes) (hkey : pKey line = some (k, 32 :: 61 :: 32 :: v))
    (hv : dropWs v = v) : pLine inReqs line = pValue inReqs k v := by
  cases line with
  | nil => cases hkey
  | cons x t =>
    -- the key vouches for the first byte: the line neither starts with a blank nor is it the header
    have hx : ¬ (isWs x = true ∨ x = 91) := fun h => by rw [pKey_stop t h] at hkey; cases hkey
    have hnh : ¬ ((x :: t).take kHeader.length = kHeader ∧ allWs ((x :: t).drop kHeader.length) = true) :=
      fun h => hx (Or.inr (List.cons.inj h.1).1)
    unfold pLine
    simp only [dropWs_cons_of_not_ws t (Bool.eq_false_iff.mpr fun h => hx (Or.inl h)), List.cons_ne_nil, ↓reduceIte,
      if_neg hnh, hkey, pSym_spaced 61 v (by decide), hv]
    rfl

theorem pLine_blank (b : Bool) : pLine b [] = .blank := by cases b <;> rfl

theorem pLine_header (b : Bool) : pLine b tHeader = .header := by cases b <;> decide

theorem pLine_string (k s : Bytes) (hne : k ≠ []) (hk : ∀ x ∈ k, isPlainByte x = true) (hi : k ≠ kIgnore) :
    pLine false (k ++ 32 :: 61 :: 32 :: encString s) =
      if k = kName then .name s else if k = kVersion then .version s else .bad := by
  have hd := dropWs_encString s []
  have hp := pString_enc s []
  rw [List.append_nil] at hd hp
  rw [pLine_kv false _ k _ (pKey_bare k _ hne hk) hd, pValue, if_neg (by decide), if_neg hi, hp]
  rfl

theorem pLine_name (s : Bytes) : pLine false (tName ++ encString s) = .name s :=
  pLine_string kName s (by decide) (by decide) (by decide)

theorem pLine_version (s : Bytes) : pLine false (tVersion ++ encString s) = .version s :=
  pLine_string kVersion s (by decide) (by decide) (by decide)

theorem dropWs_encArray (l : List Bytes) : dropWs (encArray l) = encArray l := by
  unfold encArray
  split <;> exact dropWs_cons_of_not_ws _ (by decide)

theorem pLine_ignore (l : List Bytes) : pLine false (tIgnore ++ encArray l) = .ignore l := by
  have hp := pArray_enc l []
  rw [List.append_nil] at hp
  rw [show tIgnore ++ encArray l = kIgnore ++ 32 :: 61 :: 32 :: encArray l from rfl,
    pLine_kv false _ kIgnore _ (pKey_bare kIgnore _ (by decide) (by decide)) (dropWs_encArray l), pValue, hp]
  rfl

/-- a requirement line without its newline -/
def reqBody (q : Bytes → Bool) (r : Req) : Bytes :=
  (if q r.key then encString r.key else r.key) ++ tReqOpen ++ encString r.path ++ tReqMid ++ encString r.version ++ tReqClose

theorem reqLine_eq (q : Bytes → Bool) (r : Req) : reqLine q r = reqBody q r ++ nl := rfl

theorem reqBody_eq (q : Bytes → Bool) (r : Req) :
    reqBody q r = (if q r.key then encString r.key else r.key) ++ 32 :: 61 :: 32 :: inlineText r.path r.version := by
  simp only [reqBody, List.append_assoc]
  rfl

theorem pLine_req (q : Bytes → Bool) (r : Req) (hq : q r.key = false → r.key ≠ [] ∧ ∀ x ∈ r.key, isPlainByte x = true) :
    pLine true (reqBody q r) = .req r := by
  rw [reqBody_eq, pLine_kv true _ r.key _ (pKey_enc q r.key _ hq)
    (show dropWs (inlineText r.path r.version) = _ from dropWs_cons_of_not_ws _ (by decide)), pValue, if_pos rfl, pInline_enc]
  rfl


theorem bytesLt_iff {a b : Bytes} : bytesLt a b = true ↔ a < b := by
  induction a generalizing b with
  | nil => cases b <;> simp [bytesLt]
  | cons x a ih =>
    cases b with
    | nil => simp [bytesLt]
    | cons y b =>
      rw [bytesLt, List.cons_lt_cons_iff, ← ih]
      by_cases hxy : x < y
      · simp [hxy]
      · by_cases hyx : y < x
        · have hne : x ≠ y := fun h => hxy (h ▸ hyx)
          simp [hxy, hyx, hne]
        · have : x = y := UInt8.le_antisymm (UInt8.not_lt.mp hyx) (UInt8.not_lt.mp hxy)
          simp [this]

theorem sortedKeys_iff {l : List Req} : sortedKeys l = true ↔ l.Pairwise (fun a b => a.key < b.key) := by
  induction l with
  | nil => simp [sortedKeys]
  | cons a l ih =>
    cases l with
    | nil => simp [sortedKeys]
    | cons b l =>
      rw [sortedKeys, Bool.and_eq_true, ih, bytesLt_iff, List.pairwise_cons (a := a), List.pairwise_cons]
      constructor
      · rintro ⟨hab, hb, hl⟩
        refine ⟨fun x hx => ?_, hb, hl⟩
        rcases List.mem_cons.mp hx with rfl | hx
        · exact hab
        · exact List.lt_trans hab (hb x hx)
      · rintro ⟨ha, hbl⟩
        exact ⟨ha b List.mem_cons_self, hbl⟩

theorem sortReqs_sorted (l : List Req) (h : sortedKeys l = true) : sortReqs l = l := by
  induction l with
  | nil => rfl
  | cons a l ih =>
    obtain ⟨ha, hl⟩ := List.pairwise_cons.mp (sortedKeys_iff.mp h)
    rw [sortReqs, ih (sortedKeys_iff.mpr hl)]
    cases l with
    | nil => rfl
    | cons b l =>
      have : bytesLt b.key a.key = false :=
        Bool.eq_false_iff.mpr fun h' => List.lt_asymm (ha b List.mem_cons_self) (bytesLt_iff.mp h')
      simp [insertReq, this]

theorem sortedKeys_pairwise (l : List Req) (h : sortedKeys l = true) : l.Pairwise (fun a b => a.key ≠ b.key) :=
  (sortedKeys_iff.mp h).imp fun {a b} (hab : a.key < b.key) (heq : a.key = b.key) => List.lt_irrefl _ (heq ▸ hab)


/-- for the fixed pieces of text the left side is evaluated -/
theorem no_nl_of_all {l : Bytes} (h : l.all (· != 10) = true) : (10 : UInt8) ∉ l :=
  fun hm => bne_iff_ne.mp (List.all_eq_true.mp h 10 hm) rfl

theorem encString_no_nl (s : Bytes) : (10 : UInt8) ∉ encString s := by
  unfold encString
  split
  · refine List.not_mem_cons_of_ne_of_not_mem (by decide) (List.not_mem_append (fun hm => ?_) (no_nl_of_all (by decide)))
    obtain ⟨b, _, hb⟩ := List.mem_flatMap.mp hm
    exact escByte_no_nl b hb
  · rename_i h
    refine List.not_mem_cons_of_ne_of_not_mem (by decide) (List.not_mem_append (fun hm => h ?_) (no_nl_of_all (by decide)))
    exact List.any_eq_true.mpr ⟨10, hm, by decide⟩

theorem encItems_no_nl (l : List Bytes) : (10 : UInt8) ∉ encItems l := by
  induction l with
  | nil => exact List.not_mem_nil
  | cons a l ih =>
    cases l with
    | nil => exact encString_no_nl a
    | cons b l => exact List.not_mem_append (List.not_mem_append (encString_no_nl a) (no_nl_of_all (by decide))) ih

theorem encArray_no_nl (l : List Bytes) : (10 : UInt8) ∉ encArray l := by
  unfold encArray
  split
  · exact no_nl_of_all (by decide)
  · exact List.not_mem_cons_of_ne_of_not_mem (by decide)
      (List.not_mem_append (encItems_no_nl l) (no_nl_of_all (by decide)))

theorem reqBody_no_nl (q : Bytes → Bool) (r : Req) (hq : q r.key = false → ∀ x ∈ r.key, isPlainByte x = true) :
    (10 : UInt8) ∉ reqBody q r := by
  have hk : (10 : UInt8) ∉ (if q r.key then encString r.key else r.key) := by
    cases h : q r.key with
    | true => exact encString_no_nl r.key
    | false => exact fun hm => absurd (hq h 10 hm) (by decide)
  exact List.not_mem_append (List.not_mem_append (List.not_mem_append (List.not_mem_append
    (List.not_mem_append hk (no_nl_of_all (by decide))) (encString_no_nl _)) (no_nl_of_all (by decide)))
    (encString_no_nl _)) (no_nl_of_all (by decide))


theorem foldLines_step {st st' : PState} (l rest : Bytes) (h : (10 : UInt8) ∉ l) (hs : stepLine st l = some st') :
    foldLines st (Label.split 10 (l ++ nl ++ rest)) = foldLines st' (Label.split 10 rest) := by
  rw [show l ++ nl ++ rest = l ++ 10 :: rest by simp [nl], Label.split_append_sep 10 l rest h, foldLines, hs]

theorem foldLines_section {st st' : PState} (blank : Bool) (l rest : Bytes) (h : (10 : UInt8) ∉ l)
    (hs : stepLine st l = some st') :
    foldLines st (Label.split 10 ((if blank then nl else []) ++ l ++ nl ++ rest)) = foldLines st' (Label.split 10 rest) := by
  cases blank
  · exact foldLines_step l rest h hs
  · exact (foldLines_step [] (l ++ nl ++ rest) (by simp) (by rw [stepLine, pLine_blank])).trans
      (foldLines_step l rest h hs)

theorem fold_name (n v : Bytes) (ig : List Bytes) (rs : List Req) (sv si : Bool) (rest : Bytes) :
    foldLines ⟨⟨[], v, ig, rs⟩, false, false, sv, si⟩
        (Label.split 10 ((if n ≠ [] then tName ++ encString n ++ nl else []) ++ rest)) =
      foldLines ⟨⟨n, v, ig, rs⟩, false, decide (n ≠ []), sv, si⟩ (Label.split 10 rest) := by
  by_cases h : n = []
  · subst h; rfl
  · rw [if_pos h, decide_eq_true h]
    exact foldLines_step (tName ++ encString n) rest (List.not_mem_append (no_nl_of_all (by decide)) (encString_no_nl n))
      (by rw [stepLine, pLine_name]; rfl)

theorem fold_version (n v : Bytes) (ig : List Bytes) (rs : List Req) (sn si : Bool) (rest : Bytes) :
    foldLines ⟨⟨n, [], ig, rs⟩, false, sn, false, si⟩
        (Label.split 10 ((if v ≠ [] then tVersion ++ encString v ++ nl else []) ++ rest)) =
      foldLines ⟨⟨n, v, ig, rs⟩, false, sn, decide (v ≠ []), si⟩ (Label.split 10 rest) := by
  by_cases h : v = []
  · subst h; rfl
  · rw [if_pos h, decide_eq_true h]
    exact foldLines_step (tVersion ++ encString v) rest (List.not_mem_append (no_nl_of_all (by decide)) (encString_no_nl v))
      (by rw [stepLine, pLine_version]; rfl)

theorem fold_ignore (n v : Bytes) (ig : List Bytes) (rs : List Req) (sn sv blank : Bool) (rest : Bytes) :
    foldLines ⟨⟨n, v, [], rs⟩, false, sn, sv, false⟩
        (Label.split 10 ((if ig ≠ [] then (if blank then nl else []) ++ tIgnore ++ encArray ig ++ nl else []) ++ rest)) =
      foldLines ⟨⟨n, v, ig, rs⟩, false, sn, sv, decide (ig ≠ [])⟩ (Label.split 10 rest) := by
  by_cases h : ig = []
  · subst h; rfl
  · rw [if_pos h, decide_eq_true h, List.append_assoc _ tIgnore]
    exact foldLines_section blank (tIgnore ++ encArray ig) rest (List.not_mem_append (no_nl_of_all (by decide)) (encArray_no_nl ig))
      (by rw [stepLine, pLine_ignore]; rfl)

theorem fold_reqs (q : Bytes → Bool) (n v : Bytes) (ig : List Bytes) (sn sv si : Bool) (rs : List Req) :
    ∀ (done : List Req),
      (∀ r ∈ rs, q r.key = false → r.key ≠ [] ∧ ∀ x ∈ r.key, isPlainByte x = true) →
      (done ++ rs).Pairwise (fun a b => a.key ≠ b.key) →
      foldLines ⟨⟨n, v, ig, done⟩, true, sn, sv, si⟩ (Label.split 10 (rs.map (reqLine q)).flatten) =
        some ⟨⟨n, v, ig, done ++ rs⟩, true, sn, sv, si⟩ := by
  induction rs with
  | nil => intro done _ _; rw [List.append_nil]; rfl
  | cons r rs ih =>
    intro done hq hp
    have hqr := hq r List.mem_cons_self
    have hnew : done.any (fun x => decide (x.key = r.key)) = false :=
      List.any_eq_false.mpr fun x hx => by
        simpa using (List.pairwise_append.mp hp).2.2 x hx r List.mem_cons_self
    rw [List.map_cons, List.flatten_cons, reqLine_eq,
      foldLines_step (reqBody q r) _ (reqBody_no_nl q r fun h => (hqr h).2)
        (by rw [stepLine, pLine_req q r hqr]; exact if_neg (by rw [hnew]; decide)),
      ih (done ++ [r]) (fun x hx => hq x (List.mem_cons_of_mem _ hx)) (by rwa [List.append_assoc]),
      List.append_assoc]
    rfl

theorem fold_section_reqs (q : Bytes → Bool) (n v : Bytes) (ig : List Bytes) (sn sv si : Bool) (rs : List Req) (blank : Bool)
    (hq : ∀ r ∈ rs, q r.key = false → r.key ≠ [] ∧ ∀ x ∈ r.key, isPlainByte x = true)
    (hp : rs.Pairwise (fun a b => a.key ≠ b.key)) :
    foldLines ⟨⟨n, v, ig, []⟩, false, sn, sv, si⟩
        (Label.split 10 (if rs ≠ [] then (if blank then nl else []) ++ tHeader ++ nl ++ (rs.map (reqLine q)).flatten else [])) =
      some ⟨⟨n, v, ig, rs⟩, decide (rs ≠ []), sn, sv, si⟩ := by
  by_cases h : rs = []
  · subst h; rfl
  · rw [if_pos h, decide_eq_true h,
      foldLines_section blank tHeader _ (no_nl_of_all (by decide)) (by rw [stepLine, pLine_header]; rfl)]
    exact fold_reqs q n v ig sn sv si rs [] hq hp

theorem validate_valid (c : Config) (h : c.valid = true) : validate c = .ok c := by
  obtain ⟨n, v, ig, rs⟩ := c
  simp only [Config.valid, Bool.and_eq_true, List.all_eq_true, decide_eq_true_eq] at h
  obtain ⟨h1, h2⟩ := h
  unfold validate
  have hall : (rs.all fun r => canonicalSemver r.version) = true := by
    rw [List.all_eq_true]; exact fun r hr => (h1 r hr).1
  have hmap : rs.map (fun r => { r with path := cleanPath r.path }) = rs := by
    conv => rhs; rw [← List.map_id rs]
    apply List.map_congr_left
    intro r hr
    rw [(h1 r hr).2]; rfl
  simp only [hall, ↓reduceIte, hmap, sortReqs_sorted rs h2]

/-- reading back what is written, for any quoting rule that quotes every name that is not a bare key -/
theorem parseSub_emitWith (q : Bytes → Bool) (c : Config) (h : c.valid = true)
    (hq : ∀ r ∈ c.reqs, q r.key = false → r.key ≠ [] ∧ ∀ x ∈ r.key, isPlainByte x = true) :
    parseSub (emitWith q c) = .ok c := by
  have hs : sortedKeys c.reqs = true := by
    simp only [Config.valid, Bool.and_eq_true] at h; exact h.2
  have hv := validate_valid c h
  obtain ⟨n, v, ig, rs⟩ := c
  simp only [parseSub, emitWith, sortReqs_sorted rs hs]
  rw [List.append_assoc, List.append_assoc,
    show ({} : PState) = ⟨⟨[], [], [], []⟩, false, false, false, false⟩ from rfl, fold_name, fold_version,
    fold_ignore, fold_section_reqs q n v ig _ _ _ rs _ hq (sortedKeys_pairwise rs hs)]
  exact hv


theorem spvRev_found (w cr acc : Bytes) (h47 : (47 : UInt8) ∉ w) (h64 : (64 : UInt8) ∉ w) :
    splitPathVersionRev (w ++ 64 :: cr) acc = some (cr.reverse, w.reverse ++ acc) := by
  induction w generalizing acc with
  | nil => simp [splitPathVersionRev]
  | cons x w ih =>
    simp only [List.mem_cons, not_or] at h47 h64
    have hx1 : x ≠ 47 := fun h => h47.1 h.symm
    have hx2 : x ≠ 64 := fun h => h64.1 h.symm
    simp only [List.cons_append, splitPathVersionRev, hx1, ↓reduceIte, hx2]
    rw [ih (x :: acc) h47.2 h64.2]
    simp

theorem splitPathVersion_join (c v : Bytes) (h47 : (47 : UInt8) ∉ v) (h64 : (64 : UInt8) ∉ v) :
    splitPathVersion (c ++ 64 :: v) = (c, v) := by
  unfold splitPathVersion
  have : (c ++ 64 :: v).reverse = v.reverse ++ 64 :: c.reverse := by simp
  rw [this, spvRev_found v.reverse c.reverse [] (by simpa using h47) (by simpa using h64)]
  simp

theorem spvRev_some {l acc a b : Bytes} (h : splitPathVersionRev l acc = some (a, b)) :
    ∃ pre, l = pre ++ 64 :: a.reverse ∧ b = pre.reverse ++ acc ∧ (47 : UInt8) ∉ pre ∧ (64 : UInt8) ∉ pre := by
  induction l generalizing acc with
  | nil => cases h
  | cons x l ih =>
    rw [splitPathVersionRev] at h
    by_cases h1 : x = 47
    · rw [if_pos h1] at h; cases h
    · rw [if_neg h1] at h
      by_cases h2 : x = 64
      · rw [if_pos h2] at h; cases h
        exact ⟨[], by rw [h2, List.reverse_reverse]; rfl, rfl, List.not_mem_nil, List.not_mem_nil⟩
      · rw [if_neg h2] at h
        obtain ⟨pre, rfl, rfl, h47, h64⟩ := ih h
        exact ⟨x :: pre, rfl, by simp, List.not_mem_cons_of_ne_of_not_mem (Ne.symm h1) h47,
          List.not_mem_cons_of_ne_of_not_mem (Ne.symm h2) h64⟩

theorem splitPathVersion_spec (p : Bytes) :
    (splitPathVersion p = (p, [])) ∨
    (∃ p0 v, splitPathVersion p = (p0, v) ∧ p = p0 ++ 64 :: v ∧ (47 : UInt8) ∉ v ∧ (64 : UInt8) ∉ v) := by
  unfold splitPathVersion
  cases h : splitPathVersionRev p.reverse [] with
  | none => exact Or.inl rfl
  | some r =>
    obtain ⟨a, b⟩ := r
    obtain ⟨pre, hl, hb, h47, h64⟩ := spvRev_some h
    right
    refine ⟨a, b, rfl, ?_, ?_, ?_⟩
    · have := congrArg List.reverse hl
      simp only [List.reverse_reverse, List.reverse_append, List.reverse_cons, List.append_assoc, List.singleton_append] at this
      rw [this, hb]; simp
    · rw [hb]; simpa using h47
    · rw [hb]; simpa using h64

def keptVersion (v : Bytes) : Prop := v ≠ [] ∧ v ≠ [118, 48] ∧ v ≠ [118, 49]

theorem joinPathVersion_kept (p v : Bytes) (h : keptVersion v) : joinPathVersion p v = p ++ 64 :: v := by
  obtain ⟨h1, h2, h3⟩ := h
  simp [joinPathVersion, h1, h2, h3]

theorem cleanPath_at (q v : Bytes) (h : keptVersion v) (h47 : (47 : UInt8) ∉ v) (h64 : (64 : UInt8) ∉ v) :
    cleanPath (q ++ 64 :: v) = Label.pathClean q ++ 64 :: v := by
  rw [cleanPath, splitPathVersion_join q v h47 h64]
  exact joinPathVersion_kept _ _ h

theorem splitPathVersion_no_at (p : Bytes) (h : (64 : UInt8) ∉ p) : splitPathVersion p = (p, []) := by
  rcases splitPathVersion_spec p with hs | ⟨p0, v, _, rfl, _, _⟩
  · exact hs
  · exact absurd (List.mem_append_right p0 List.mem_cons_self) h

theorem cleanPath_no_at (q : Bytes) (h : (64 : UInt8) ∉ q) : cleanPath q = Label.pathClean q := by
  rw [cleanPath, splitPathVersion_no_at q h]
  rfl

end Dawn.Config
