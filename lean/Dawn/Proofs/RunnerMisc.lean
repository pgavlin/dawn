import Dawn.Proofs.RunnerCycle
/-!
# Runner: remaining helper facts — stability of finished targets, graphs without cycles, schedules as witnesses of
reachability
-/
namespace Dawn.Runner

theorem exists_some_of_not_all_none {α β : Type} {f : α → Option β} (h : ¬ ∀ a, f a = none) :
    ∃ a b, f a = some b :=
  Classical.byContradiction fun hno => h fun a => by
    cases hf : f a with
    | none => rfl
    | some b => exact absurd ⟨a, b, hf⟩ hno

theorem step_stable {P : Params} {s s' : State} {t : Tid} (inv : Inv P s) (h : step P s t = some s') :
    Stable s s' := by
  rcases step_cases h with ⟨_, hm⟩ | ⟨l, p, _, hp, ht⟩
  · cases hm with
    | start hm => exact stable_startTarget s P.root
    | _ => exact Stable.refl s
  · exact tstep_stable inv hp ht

theorem no_cycle_of_edges {P : Params} {r : Label → Label → Prop} (htr : ∀ {a b c}, r a b → r b c → r a c)
    (hirr : ∀ a, ¬ r a a) (hedge : ∀ a b, b ∈ edges P a → r a b) (x : Label) : ¬ Path P x x :=
  fun h => hirr x (h.rel (r := r) htr hedge)

theorem runSched_closed {stepf : State → Tid → Option State} {R : State → Prop}
    (hR : ∀ s t s', R s → stepf s t = some s' → R s') (ts : List Tid) {s0 s : State} (h0 : R s0)
    (h : runSched stepf s0 ts = some s) : R s := by
  induction ts generalizing s0 with
  | nil => cases h; exact h0
  | cons t ts ih =>
    simp only [runSched] at h
    split at h
    next s1 hs1 => exact ih (hR _ _ _ h0 hs1) h
    · cases h

theorem reachable_of_runSched {P : Params} (ts : List Tid) {s0 s : State} (h0 : Reachable P s0)
    (h : runSched (step P) s0 ts = some s) : Reachable P s :=
  runSched_closed (fun _ t _ hr hs => .step t hr hs) ts h0 h

theorem reachableOld_of_runSched {P : Params} (ts : List Tid) {s0 s : State} (h0 : ReachableOld P s0)
    (h : runSched (stepOld P) s0 ts = some s) : ReachableOld P s :=
  runSched_closed (fun _ t _ hr hs => .step t hr hs) ts h0 h

def grunSched (b : Bool) (P : Params) : GState → List Tid → Option GState
  | g, [] => some g
  | g, t :: ts => match gstepV b P g t with
    | some g' => grunSched b P g' ts
    | none => none

theorem greachableV_of_grunSched {b : Bool} {P : Params} (ts : List Tid) {g0 g : GState}
    (h0 : GReachableV b P g0) (h : grunSched b P g0 ts = some g) : GReachableV b P g := by
  induction ts generalizing g0 with
  | nil => cases h; exact h0
  | cons t ts ih =>
    simp only [grunSched] at h
    split at h
    next g1 hg1 => exact ih (.step t h0 hg1) h
    · cases h

theorem ureachable_of_urunSched {P : Params} (ts : List Tid) {u0 u : UState} (h0 : UReachable P u0)
    (h : urunSched P u0 ts = some u) : UReachable P u := by
  induction ts generalizing u0 with
  | nil => cases h; exact h0
  | cons t ts ih =>
    simp only [urunSched] at h
    split at h
    next u1 hu1 => exact ih (.step t h0 hu1) h
    · cases h

theorem wreachableV_of_wrunSched {mode : WMode} {P : Params} (ts : List Tid) {w0 w : WState}
    (h0 : WReachableV mode P w0) (h : wrunSched mode P w0 ts = some w) : WReachableV mode P w := by
  induction ts generalizing w0 with
  | nil => cases h; exact h0
  | cons t ts ih =>
    simp only [wrunSched] at h
    split at h
    next w1 hw1 => exact ih (.step t h0 hw1) h
    · cases h

theorem exists_of_run {σ : Type} {run : Option σ} {R Q : σ → Prop} (hR : ∀ s, run = some s → R s)
    (h : ∃ s, run = some s ∧ Q s) : ∃ s, R s ∧ Q s :=
  let ⟨s, h1, h2⟩ := h; ⟨s, hR s h1, h2⟩

theorem executing_eq_holders {P : Params} {s : State} (inv : Inv P s) : executingSet s = holders s := by
  unfold executingSet holders
  apply List.filter_congr
  intro x _
  rw [inv.holds x]
  unfold State.executing expHolds
  cases s.pc x <;> rfl

end Dawn.Runner
