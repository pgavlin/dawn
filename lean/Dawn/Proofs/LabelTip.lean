import Dawn.Proofs.LabelPath
import Dawn.Model.Build
/-! `targetInfoPath` (C12): a left inverse of the model of `url.PathEscape`; that the model of the same function in
`Dawn/Model/Build.lean` is this one (`pathEscape_eq_build`, proved here, below both models, for
`Link.C12_path_escape_models_agree`; `Proofs/BuildPath.lean` imports this file); and what the record path determines. -/
namespace Dawn.Label

def hexDigitVal (c : UInt8) : UInt8 := if c < 58 then c - 48 else c - 55

/-- a left inverse of `pathEscape` -/
def pathUnescape : Bytes → Bytes
  | [] => []
  | [c] => [c]
  | [c, a] => c :: pathUnescape [a]
  | c :: a :: b :: rest =>
    if c = 37 then (hexDigitVal a * 16 + hexDigitVal b) :: pathUnescape rest else c :: pathUnescape (a :: b :: rest)

theorem pathUnescape_cons_ne (c : UInt8) (rest : Bytes) (h : c ≠ 37) : pathUnescape (c :: rest) = c :: pathUnescape rest := by
  match rest with
  | [] => simp [pathUnescape]
  | [a] => simp [pathUnescape]
  | a :: b :: r => simp [pathUnescape, h]

theorem hexDigitVal_hexUpper : ∀ n : Fin 16, hexDigitVal (hexUpper n) = UInt8.ofNat n := by decide

theorem hexUpper_ne_slash : ∀ n : Fin 16, hexUpper n ≠ slash := by decide

theorem hex_digits (c : UInt8) :
    hexDigitVal (hexUpper (c.toNat / 16)) * 16 + hexDigitVal (hexUpper (c.toNat % 16)) = c := by
  have hc := c.toNat_lt
  rw [hexDigitVal_hexUpper ⟨c.toNat / 16, by omega⟩, hexDigitVal_hexUpper ⟨c.toNat % 16, by omega⟩]
  show UInt8.ofNat (c.toNat / 16) * UInt8.ofNat 16 + UInt8.ofNat (c.toNat % 16) = c
  rw [← UInt8.ofNat_mul, ← UInt8.ofNat_add, Nat.div_add_mod', UInt8.ofNat_toNat]

theorem pathUnescape_pathEscape (s : Bytes) : pathUnescape (pathEscape s) = s := by
  induction s with
  | nil => rfl
  | cons c s ih =>
    unfold pathEscape at ih ⊢
    rw [List.flatMap_cons]
    split
    · rename_i hk
      -- `%` is escaped, so a kept byte is not taken for the start of an escape
      rw [List.singleton_append, pathUnescape_cons_ne _ _ (fun h => by rw [h] at hk; revert hk; decide), ih]
    · simp only [List.cons_append, List.nil_append, pathUnescape, ↓reduceIte, hex_digits, ih]

theorem pathEscape_injective {a b : Bytes} (h : pathEscape a = pathEscape b) : a = b := by
  have := congrArg pathUnescape h
  rwa [pathUnescape_pathEscape, pathUnescape_pathEscape] at this

/-- an escaped segment is one path element: `/` is escaped and is not a hex digit -/
theorem pathEscape_no_slash (s : Bytes) : slash ∉ pathEscape s := by
  unfold pathEscape
  intro h
  obtain ⟨c, _, hc⟩ := List.mem_flatMap.mp h
  have hlt := c.toNat_lt
  split at hc
  · rename_i hk
    rw [← List.mem_singleton.mp hc] at hk; revert hk; decide
  · simp only [List.mem_cons, List.not_mem_nil, or_false] at hc
    rcases hc with hc | hc | hc
    · revert hc; decide
    · exact hexUpper_ne_slash ⟨c.toNat / 16, by omega⟩ hc.symm
    · exact hexUpper_ne_slash ⟨c.toNat % 16, by omega⟩ hc.symm

/-- the two spellings of `shouldEscape(c, encodePathSegment)`: a chain of `if`s over Boolean tests, and a decided
disjunction; the same tests in the same order -/
theorem shouldEscape_eq (c : UInt8) : Build.shouldEscape c = !pathEscapeKeeps c := by
  unfold Build.shouldEscape pathEscapeKeeps
  simp only [Bool.decide_or, Bool.decide_and, Bool.or_assoc, Bool.if_false_left, Bool.decide_eq_true, Bool.not_or,
    Bool.and_true, Bool.and_assoc]
  rfl

theorem upperHex_eq : ∀ m : Fin 16, Build.upperHex (UInt8.ofNat m) = hexUpper m := by decide

theorem shiftRight_four (c : UInt8) : c >>> 4 = UInt8.ofNat (c.toNat / 16) := by
  apply UInt8.toNat_inj.mp
  have := c.toNat_lt
  rw [UInt8.toNat_shiftRight, UInt8.toNat_ofNat', Nat.shiftRight_eq_div_pow]
  show c.toNat / 16 = _
  omega

theorem and_fifteen (c : UInt8) : c &&& 15 = UInt8.ofNat (c.toNat % 16) := by
  apply UInt8.toNat_inj.mp
  have := c.toNat_lt
  rw [UInt8.toNat_and, UInt8.toNat_ofNat']
  show c.toNat &&& (2 ^ 4 - 1) = _
  rw [Nat.and_two_pow_sub_one_eq_mod]
  omega

theorem pathEscape_eq_build (s : List UInt8) : Build.pathEscape s = pathEscape s := by
  induction s with
  | nil => rfl
  | cons c s ih =>
    have hc := c.toNat_lt
    rw [pathEscape, List.flatMap_cons, ← pathEscape, ← ih, Build.pathEscape, shouldEscape_eq, shiftRight_four,
      and_fifteen, upperHex_eq ⟨c.toNat / 16, by omega⟩, upperHex_eq ⟨c.toNat % 16, by omega⟩]
    cases pathEscapeKeeps c <;> rfl

/-- The labels whose build records a project keeps (`saveTargetInfo`): its own labels (no project part), with a
kind that contains no `/` (what `New` accepts; every kind the system uses: `""`, `source`, `arg`) and is not
spelled `target` (the directory of the empty kind), an absolute package, and a non-empty name without `/`. -/
structure TipOK (l : Label) : Prop where
  project : l.project = []
  kindSlash : slash ∉ l.kind
  kindTarget : l.kind ≠ defaultKind
  pkgAbs : hasPrefixSS l.pkg = true
  name : l.name ≠ []
  nameSlash : slash ∉ l.name

def tipDir (l : Label) : Bytes := (if l.kind = [] then defaultKind else l.kind) ++ kindSuffix
def tipSeg (l : Label) : Bytes := pathEscape (l.pkg.drop 2 ++ [slash] ++ (if l.name = [] then defaultTarget else l.name))

theorem hasPrefixSS_length {s : Bytes} (h : hasPrefixSS s = true) : 2 ≤ s.length ∧ s = slash :: slash :: s.drop 2 := by
  obtain ⟨t, rfl⟩ := hasPrefixSS_iff.mp h
  exact ⟨Nat.le_add_left 2 _, rfl⟩

theorem tip_eq (work : Bytes) (l : Label) (h : hasPrefixSS l.pkg = true) :
    targetInfoPathGo work l = .ok (pathClean (work ++ [slash] ++ tipDir l ++ [slash] ++ tipSeg l)) := by
  unfold targetInfoPathGo
  rw [slice_to_end (hasPrefixSS_length h).1]
  rfl

theorem tipDir_normal (l : Label) (h : slash ∉ l.kind) : Normal (tipDir l) ∧ slash ∉ tipDir l := by
  unfold tipDir kindSuffix
  generalize hk : (if l.kind = [] then defaultKind else l.kind) = k
  have hks : slash ∉ k := by
    rw [← hk]; split
    · decide
    · exact h
  have hl : (k ++ [115]).getLast? = some 115 := by simp
  refine ⟨⟨by simp, ?_, ?_⟩, ?_⟩
  · intro he; rw [he] at hl; revert hl; decide
  · intro he; rw [he] at hl; revert hl; decide
  · simp only [List.mem_append, List.mem_singleton, not_or]
    exact ⟨hks, by decide⟩

theorem tipSeg_normal (l : Label) : Normal (tipSeg l) ∧ slash ∉ tipSeg l := by
  unfold tipSeg
  -- the `/` between package and name is written `%2F`
  have hm : (37 : UInt8) ∈ pathEscape (l.pkg.drop 2 ++ [slash] ++ (if l.name = [] then defaultTarget else l.name)) :=
    List.mem_flatMap.mpr ⟨slash, by simp, by decide⟩
  refine ⟨⟨?_, ?_, ?_⟩, pathEscape_no_slash _⟩
  · intro he; rw [he] at hm; cases hm
  · intro he; rw [he] at hm; revert hm; decide
  · intro he; rw [he] at hm; revert hm; decide

/-- the stack `path.Clean` has built when it is through `work + "/"` -/
def workStack (work : Bytes) : List Bytes :=
  (split slash work).foldl (pstep (decide ((work ++ [slash]).head? = some slash))) []

/-- the stack of `path.Clean(work + "/" + dir + "/" + seg)` for two kept, slash-free elements: they sit on top of
a stack that depends on `work` only -/
theorem tip_stack (work dir seg : Bytes) (hd : Normal dir ∧ slash ∉ dir) (hs : Normal seg ∧ slash ∉ seg) :
    pathStack (pathClean (work ++ [slash] ++ dir ++ [slash] ++ seg)) = seg :: dir :: workStack work := by
  have hhead : (work ++ [slash] ++ dir ++ [slash] ++ seg).head? = (work ++ [slash]).head? := by
    cases work <;> rfl
  have hsplit : split slash (work ++ [slash] ++ dir ++ [slash] ++ seg) = split slash work ++ [dir] ++ [seg] := by
    have : work ++ [slash] ++ dir ++ [slash] ++ seg = work ++ slash :: (dir ++ slash :: seg) := by simp
    rw [this, split_append, split_append, split_no_sep _ _ hd.2, split_no_sep _ _ hs.2]
    simp
  have hclean : pathClean (work ++ [slash] ++ dir ++ [slash] ++ seg) =
      render (decide ((work ++ [slash]).head? = some slash)) (seg :: dir :: workStack work) := by
    rw [pathClean_eq, pathStack, hhead, hsplit, List.foldl_append, List.foldl_append]
    simp only [List.foldl_cons, List.foldl_nil, pstep_normal _ _ _ hd.1, pstep_normal _ _ _ hs.1, workStack]
  have hok : StackOK (decide ((work ++ [slash]).head? = some slash)) (seg :: dir :: workStack work) := by
    have h := stackOK_step _ _ seg (stackOK_step _ _ dir
      (stackOK_fold (decide ((work ++ [slash]).head? = some slash)) (split slash work) [] (stackOK_nil _)))
    rwa [pstep_normal _ _ _ hd.1, pstep_normal _ _ _ hs.1] at h
  rw [hclean]
  refine (pathStack_render _ _ hok fun e he => ?_).2
  rcases List.mem_cons.mp he with rfl | he
  · exact hs.2
  rcases List.mem_cons.mp he with rfl | he
  · exact hd.2
  exact mem_split_no_sep slash work e ((mem_fold _ _ _ _ he).resolve_left List.not_mem_nil)

/-- `a ++ s :: b` determines `a` and `b` when `b` does not contain `s`: the cut is at the last `s` -/
theorem append_sep_inj {s : UInt8} {a a' b b' : Bytes} (hb : s ∉ b) (hb' : s ∉ b') (h : a ++ s :: b = a' ++ s :: b') :
    a = a' ∧ b = b' := by
  have hl := congrArg (lastIndexByte s) h
  rw [lastIndexByte_append a b hb, lastIndexByte_append a' b' hb', Option.some.injEq] at hl
  obtain ⟨h1, h2⟩ := List.append_inj h hl
  exact ⟨h1, (List.cons.inj h2).2⟩

theorem tip_dir_seg (work : Bytes) (l₁ l₂ : Label) (h₁ : TipOK l₁) (h₂ : TipOK l₂)
    (h : targetInfoPathGo work l₁ = targetInfoPathGo work l₂) : tipDir l₁ = tipDir l₂ ∧ tipSeg l₁ = tipSeg l₂ := by
  rw [tip_eq work l₁ h₁.pkgAbs, tip_eq work l₂ h₂.pkgAbs] at h
  have := congrArg pathStack (Out.ok.inj h)
  rw [tip_stack work _ _ (tipDir_normal l₁ h₁.kindSlash) (tipSeg_normal l₁),
    tip_stack work _ _ (tipDir_normal l₂ h₂.kindSlash) (tipSeg_normal l₂)] at this
  exact ⟨(List.cons.inj (List.cons.inj this).2).1, (List.cons.inj this).1⟩

end Dawn.Label
