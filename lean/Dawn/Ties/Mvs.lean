import Dawn.Model.Mvs
import Dawn.Extracted.Mvs
import Dawn.Ties.MvsExpected
/-!
Tie 1 for C10 (the C11-only facts are in `Dawn/Ties/MvsEdit.lean`): the facts regenerated on this run from `internal/mvs/*.go`, `internal/project/version.go`,
`project_config.go`, `cmd/dawn/{get,tidy}.go`, `go.mod`/`go.sum` and the pinned `github.com/pgavlin/mvs` sources are
the ones the model (`Dawn/Model/Mvs.lean`) was written against. Re-checked by the kernel on every run.
-/
namespace Dawn.Ties.Mvs
open Dawn

theorem extraction_complete : Extracted.Mvs.extractionErrors = [] := rfl

/-- the main project is recognised by the path `""` -/
theorem root_path_ok : Extracted.Mvs.rootPath = Mvs.rootMod.path := rfl

/-- every literal the third-party algorithms compare a module version with is `"none"` -/
theorem third_sentinels_ok : ∀ s ∈ Extracted.Mvs.thirdVersionSentinels, s = Mvs.Ver.none.render := by decide +kernel

/-- the third-party MVS algorithms are the pinned ones (module version and go.sum hash) -/
theorem mvs_module_ok : Extracted.Mvs.mvsModule = Expected.Mvs.mvsModule := rfl

/-- so is `golang.org/x/mod` (semver, module.Sort, pseudo-versions) -/
theorem xmod_module_ok : Extracted.Mvs.xmodModule = Expected.Mvs.xmodModule := rfl

/-- control flow, operators, calls and constants of the functions the build list depends on (`Reqs.Required`, `Reqs.Max`,
`cmpVersion`, dawn's `BuildList`, `resolveProject`, the path helpers, `loadConfigFile`): unchanged since the model was written -/
theorem bodies_c10_ok : Extracted.Mvs.bodiesC10 = Expected.Mvs.bodiesC10 := rfl

/-- `BuildList`, `buildList` and the `Graph` methods of `github.com/pgavlin/mvs` as found in the module cache -/
theorem third_bodies_c10_ok : Extracted.Mvs.thirdBodiesC10 = Expected.Mvs.thirdBodiesC10 := rfl

end Dawn.Ties.Mvs
