import Dawn.Model.Build
import Dawn.Extracted.Build
import Dawn.Ties.BuildExpected
/-!
Tie 1 for the D27 repair (C02): the persisted dependencies map has the type whose JSON methods escape its keys
reversibly, and those functions are the ones `escapeKey` / `unescapeKey` model (compared value by value in the
stream `build.keys`). Kept apart from `Dawn/Ties/Build.lean` because these facts exist only after the repair.
-/
namespace Dawn.Ties.BuildKeys
open Dawn

theorem dependencies_type_ok : Extracted.Build.dependenciesType = "depStamps" := rfl
theorem escapeLabel_ok : Extracted.Build.escapeLabel = Expected.Build.escapeLabel := rfl
theorem unescapeLabel_ok : Extracted.Build.unescapeLabel = Expected.Build.unescapeLabel := rfl
theorem depStampsMarshal_ok : Extracted.Build.depStampsMarshal = Expected.Build.depStampsMarshal := rfl
theorem depStampsUnmarshal_ok : Extracted.Build.depStampsUnmarshal = Expected.Build.depStampsUnmarshal := rfl
end Dawn.Ties.BuildKeys
