import Dawn.Model.Runner
import Dawn.Extracted.Runner
import Dawn.Ties.RunnerExpected
/-! Tie 1, the gate (C09, C05): its two operations, its limit, and where it is entered and left. -/
namespace Dawn.Ties.Runner
open Dawn

theorem skel_newGate_ok : Extracted.Runner.skel_newGate = Expected.Runner.skel_newGate := rfl
theorem skel_enter_ok : Extracted.Runner.skel_gate_enter = Expected.Runner.skel_gate_enter := rfl
theorem skel_exit_ok : Extracted.Runner.skel_gate_exit = Expected.Runner.skel_gate_exit := rfl

/-- C09: the limit is the number of CPUs -/
theorem gate_is_numcpu : Extracted.Runner.gateArg = "runtime.NumCPU()" := rfl

/-- `enter` waits in a `for` loop that re-tests `capacity == 0` (the model's guard of `enter1` / `enter2`) -/
theorem gate_wait_is_loop : Extracted.Runner.waitLoops[1]? = Runner.waitLoops[1]? := by decide +kernel

/-- C09 (a waiting target holds no slot) and deadlock freedom with limit one: in `EvaluateTargets` the slot is
    released first — before the dependencies are started and waited for — and re-acquired (deferred) on return -/
theorem exit_before_wait :
    Extracted.Runner.evalOrder.idxOf "gate.exit" = 0 ∧ Extracted.Runner.evalOrder.idxOf "defer(gate.enter)" = 1 ∧
    Extracted.Runner.evalOrder.idxOf "gate.exit" < Extracted.Runner.evalOrder.idxOf "range(wait)" ∧
    "range(wait)" ∈ Extracted.Runner.evalOrder ∧
    (Extracted.Runner.evalOrder.filter fun x => x == "gate.exit" || x == "defer(gate.enter)").length = 2 := by decide +kernel

/-- C09: `run` acquires a slot before it loads the target and releases it (deferred) when it returns -/
theorem run_holds_slot :
    Extracted.Runner.runOrder.idxOf "gate.enter" < Extracted.Runner.runOrder.idxOf "LoadTarget" ∧
    Extracted.Runner.runOrder.idxOf "defer(gate.exit)" = Extracted.Runner.runOrder.idxOf "gate.enter" + 1 ∧
    "LoadTarget" ∈ Extracted.Runner.runOrder ∧
    (Extracted.Runner.runOrder.filter fun x => x == "gate.enter" || x == "defer(gate.exit)").length = 2 := by decide +kernel

/-- the gate is used nowhere else -/
theorem main_no_gate : "gate.enter" ∉ Extracted.Runner.mainOrder ∧ "gate.exit" ∉ Extracted.Runner.mainOrder ∧
    "defer(gate.enter)" ∉ Extracted.Runner.mainOrder ∧ "defer(gate.exit)" ∉ Extracted.Runner.mainOrder := by decide +kernel

/-- C09: `Project.Run` starts the build through `runner.Run(proj, label)` — no parallelism argument, for real and dry
    runs alike — and `Run` is the package's only entry point, so the limit is always `newGate(runtime.NumCPU())` -/
theorem project_run_call_ok : Extracted.Runner.skel_Project_Run = Expected.Runner.skel_Project_Run := rfl

theorem single_entry_point : Extracted.Runner.runnerEntryPoints = ["Run"] := rfl

end Dawn.Ties.Runner
