import Dawn.Model.Cache
import Dawn.Extracted.Cache
import Dawn.Ties.CacheExpected
/-!
Tie 1 for C20: the facts regenerated from `cache.go` on this run are the ones the model is written against.
Each theorem is re-checked by the kernel on every run; a change to the source that alters a fact breaks the
corresponding obligation (moving the call out of the locked region, dropping the re-check, storing before the
error test, replacing the deferred unlocks, changing the mutex type, …).
-/
namespace Dawn.Ties.Cache
open Dawn

theorem extraction_complete : Extracted.Cache.extractionErrors = [] := rfl

/-- `get`: RLock, deferred RUnlock, read of the map, return — the steps `start → rheld → rdone → …` -/
theorem get_shape_ok : Extracted.Cache.getShape = Cache.getShape := rfl

/-- `once`: fast path through `get`; Lock with deferred Unlock; re-check; call; error test; store; return -/
theorem once_shape_ok : Extracted.Cache.onceShape = Cache.onceShape := rfl

/-- the facts the proofs use, stated on the extracted shape itself: the callable is called after `Lock` (whose
`Unlock` is deferred, so it is held until the function returns) and after the re-check of the map; the store
comes after the error test of the call -/
theorem call_under_writer_lock_after_recheck :
    Extracted.Cache.onceShape.idxOf "lock" < Extracted.Cache.onceShape.idxOf "if-entries-hit-return" ∧
    Extracted.Cache.onceShape.idxOf "lock" + 1 = Extracted.Cache.onceShape.idxOf "defer-unlock" ∧
    Extracted.Cache.onceShape.idxOf "if-entries-hit-return" < Extracted.Cache.onceShape.idxOf "call" ∧
    Extracted.Cache.onceShape.idxOf "call" + 1 = Extracted.Cache.onceShape.idxOf "if-err-return" ∧
    Extracted.Cache.onceShape.idxOf "if-err-return" < Extracted.Cache.onceShape.idxOf "store" ∧
    Extracted.Cache.onceShape.count "call" = 1 ∧ Extracted.Cache.onceShape.count "store" = 1 ∧
    Extracted.Cache.onceShape.count "lock" = 1 := by decide +kernel

/-- the lock is a `sync.RWMutex` (reader count + writer flag in the model), the map is keyed by the string key -/
theorem mutex_ok : Extracted.Cache.mutexType = "sync.RWMutex" ∧ Extracted.Cache.entriesType = "map[string]" := ⟨rfl, rfl⟩

/-- `Freeze` does nothing, and the struct has no state besides the mutex, the map and the bound method: a frozen cache
behaves like a fresh one (`C20_freeze_irrelevant`) -/
theorem freeze_is_noop_ok : Extracted.Cache.freezeBody = Cache.freezeBody := rfl
theorem cache_fields_ok : Extracted.Cache.cacheFields = Cache.cacheFields := rfl

/-- nothing is evicted (no `clear`/`delete`, no capacity constant) and no cache state lives outside the cache value (the
only package-level variable is the builtin): the cache never forgets a key and two caches share nothing
(`C20_entries_monotone`) -/
theorem no_eviction_ok : Extracted.Cache.entryRemovals = Cache.entryRemovals ∧
    Extracted.Cache.packageConsts = Cache.packageConsts := ⟨rfl, rfl⟩
theorem no_shared_state_ok : Extracted.Cache.packageVars = Cache.packageVars := rfl

/-- everything else about the two functions' synchronisation skeletons: unchanged since the model was written -/
theorem get_skeleton_ok : Extracted.Cache.getSkeleton = Expected.Cache.getSkeleton := rfl
theorem once_skeleton_ok : Extracted.Cache.onceSkeleton = Expected.Cache.onceSkeleton := rfl

end Dawn.Ties.Cache
