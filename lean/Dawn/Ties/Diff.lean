import Dawn.Model.Diff
import Dawn.Extracted.Diff
import Dawn.Ties.DiffExpected
/-!
Tie 1 for C16: the facts regenerated from `diff/diff.go`, `diff/diff_slice.go`, `diff/types.go` and
`function.go` on this run are the ones the model is written against. Each theorem is re-checked by the kernel
on every run; a change to the source that alters a fact breaks the corresponding obligation.
-/
namespace Dawn.Ties.Diff
open Dawn

theorem extraction_complete : Extracted.Diff.extractionErrors = [] := rfl

/-- `Diff`, `DiffDepth` and `diffMapping` (diff.go) -/
theorem diff_bodies_ok :
    Extracted.Diff.diffBody = Expected.Diff.diffBody ∧
    Extracted.Diff.diffDepthBody = Expected.Diff.diffDepthBody ∧
    Extracted.Diff.diffMappingBody = Expected.Diff.diffMappingBody := ⟨rfl, rfl, rfl⟩

/-- `diffSlice` (with the sides taken before the swap: the repair of D5) and its small helpers -/
theorem diff_slice_ok :
    Extracted.Diff.diffSliceBody = Expected.Diff.diffSliceBody ∧
    Extracted.Diff.sliceBody = Expected.Diff.sliceBody ∧
    Extracted.Diff.indexReturnsSliceBody = Expected.Diff.indexReturnsSliceBody ∧
    Extracted.Diff.copySliceableBody = Expected.Diff.copySliceableBody ∧
    Extracted.Diff.diffReplacementsBody = Expected.Diff.diffReplacementsBody ∧
    Extracted.Diff.maxBody = Expected.Diff.maxBody := ⟨rfl, rfl, rfl, rfl, rfl, rfl⟩

/-- the search: `compose` (rounds, route extraction, restart, the delete+add → replace merge) and `snake` -/
theorem compose_ok :
    Extracted.Diff.composeBody = Expected.Diff.composeBody ∧
    Extracted.Diff.snakeBody = Expected.Diff.snakeBody := ⟨rfl, rfl⟩

/-- recording the route as edits: `recordSeq` and `extend` -/
theorem record_ok :
    Extracted.Diff.recordSeqBody = Expected.Diff.recordSeqBody ∧
    Extracted.Diff.extendBody = Expected.Diff.extendBody := ⟨rfl, rfl⟩

/-- `Old()` and `New()` return the fields `diffSlice`, `diffMapping` and `DiffDepth` fill in -/
theorem sides_ok :
    Extracted.Diff.oldBody = Expected.Diff.oldBody ∧ Extracted.Diff.newBody = Expected.Diff.newBody := ⟨rfl, rfl⟩

/-- constants: the route limit, the order of the raw edit kinds and their translation, the kind strings,
the depth `snake` compares elements with -/
theorem constants_ok :
    Extracted.Diff.defaultRouteSize = Diff.defaultRouteSize ∧
    Extracted.Diff.editKindOrder = ["editKindDelete", "editKindCommon", "editKindAdd"] ∧
    Extracted.Diff.editKinds = ["EditKindDelete", "EditKindCommon", "EditKindAdd"] ∧
    Extracted.Diff.editKindStrings =
      [("EditKindDelete", "delete"), ("EditKindCommon", "common"), ("EditKindAdd", "add"), ("EditKindReplace", "replace")] ∧
    Extracted.Diff.snakeDepths = [Diff.snakeDepth] := ⟨rfl, rfl, rfl, rfl, rfl⟩

/-- the rebuild reason: the key list; the one comparison and the one diff `diffEnv` makes, both with the depth
budget 1000 the model uses (`envDepth`; a call without a budget would use `CompareLimit = 10`); and the code that joins the reasons -/
theorem reason_ok :
    Extracted.Diff.functionEnvKeys = Diff.functionEnvKeys ∧
    Extracted.Diff.diffEnvDepths = [Diff.envDepth, Diff.envDepth] ∧
    Extracted.Diff.diffEnvCalls = [("starlark.EqualDepth", "1000"), ("diff.DiffDepth", "1000")] ∧
    Extracted.Diff.reasonSkeleton = Expected.Diff.reasonSkeleton := ⟨rfl, rfl, rfl, rfl⟩

end Dawn.Ties.Diff
