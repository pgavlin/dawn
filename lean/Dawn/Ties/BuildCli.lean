import Dawn.Extracted.Build
/-!
Tie 1 for the command layer of C13 (`cmd/dawn/root.go`, `cmd/dawn/build.go`). The engine's model takes the options of a
run as given (`Opts.dry`, `Opts.always`); the command layer decides what they are. These facts say that it hands the
flags the user typed to the engine, for `dawn build` and for the bare `dawn` alike, and that a dry run loads the project
the way a real build does:

* the bare command runs the build command's function (`RunE: buildCmd.RunE`), and that function reads the variable
  `buildOptions` (`work.run(label, buildOptions)`);
* the flags `-B` / `-n` of BOTH commands are bound to the fields of that same variable — a flag bound to any other
  variable would be parsed and ignored;
* the build command loads with `loadProject(args, false, false)`: never the index-only load (whose targets are always
  "up to date" and whose sources have no recorded sum), whatever the flags say.

Compared behaviourally by the stream `build.cli.judge` (the real commands in processes of their own).
-/
namespace Dawn.Ties.BuildCli
open Dawn

theorem root_runs_build_ok : Extracted.Build.cliRootRunE = "buildCmd.RunE" := rfl

theorem root_flags_ok : Extracted.Build.cliRootFlagVars =
    ["always=&buildOptions.Always", "dry-run=&buildOptions.DryRun", "dot=&buildDOT", "json=&buildJSON"] := rfl

theorem build_flags_ok : Extracted.Build.cliBuildFlagVars =
    ["always=&buildOptions.Always", "dry-run=&buildOptions.DryRun", "json=&buildJSON", "dot=&buildDOT"] := rfl

theorem build_load_args_ok : Extracted.Build.cliBuildLoadArgs = ["args", "false", "false"] := rfl

theorem build_run_args_ok : Extracted.Build.cliBuildRunArgs = ["label", "buildOptions"] := rfl

end Dawn.Ties.BuildCli
