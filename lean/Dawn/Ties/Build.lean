import Dawn.Model.Build
import Dawn.Extracted.Build
import Dawn.Ties.BuildExpected
/-!
Tie 1 for C01, C02, C03, C13, C14: the facts regenerated from `target.go`, `function.go`, `sourceFile.go`,
`project.go`, `project_index.go` on this run are the ones `Dawn/Model/Build.lean` is written against.
Each theorem is re-checked by the kernel on every run; a change to the source that alters a fact breaks the
corresponding obligation (formatting, comments and local renames do not).
-/
namespace Dawn.Ties.Build
open Dawn

theorem extraction_complete : Extracted.Build.extractionErrors = [] := rfl

/-- `targetInfo`: the fields of a record, their JSON names, all `omitempty` (so an empty record is `{}` and a
missing field decodes to the zero value; an empty `Attrs` is the model's `attrs = none`); `Runs` is the D8 repair, `Attrs`
the D32 repair -/
theorem fields_ok : Extracted.Build.targetInfoFields =
    [("Doc", "doc,omitempty"), ("Dependencies", "dependencies,omitempty"), ("Data", "stamp,omitempty"),
     ("Rerun", "rerun,omitempty"), ("Runs", "runs,omitempty"), ("Attrs", "attrs,omitempty")] := rfl

/-- the kind → directory rule of `targetInfoPath`: kind `""` is `target`, an empty name is `BUILD.dawn`,
the file is `PathEscape(pkg[2:] + "/" + name)` in the directory `kind + "s"` -/
theorem path_literals_ok : Extracted.Build.pathLiterals = ["", "target", "", "BUILD.dawn", "/", "s"] := rfl

/-- the model's `targetInfoPath` uses exactly those literals -/
theorem path_model_ok :
    (Extracted.Build.pathLiterals.map fun l => l.toList.map Char.toNat) =
      [[], Build.kindTarget.map UInt8.toNat, [], Build.nameBuild.map UInt8.toNat, Build.slash.map UInt8.toNat,
       Build.pluralS.map UInt8.toNat] := by
  decide +kernel

/-- the crash points: the hook call sites, per function in source order, are the model's `Hook` points
(`bodyWrote` is hit by the harness's own body builtin) -/
theorem hooks_ok : Extracted.Build.hookPoints =
    ["target.body.before", "target.body.after", "target.record.failure", "target.record.success",
     "saveTargetInfo.created", "saveTargetInfo.written", "saveTargetInfo.renamed",
     "saveIndex.created", "saveIndex.encoded"] := rfl

/-! everything else about the modelled functions (control flow, operators, calls, field names): unchanged
since the model was written -/
theorem evaluate_ok : Extracted.Build.evaluate = Expected.Build.evaluate := rfl
theorem fnUpToDate_ok : Extracted.Build.fnUpToDate = Expected.Build.fnUpToDate := rfl
theorem fnLoad_ok : Extracted.Build.fnLoad = Expected.Build.fnLoad := rfl
theorem fnEvaluate_ok : Extracted.Build.fnEvaluate = Expected.Build.fnEvaluate := rfl
theorem srcUpToDate_ok : Extracted.Build.srcUpToDate = Expected.Build.srcUpToDate := rfl
theorem srcEvaluate_ok : Extracted.Build.srcEvaluate = Expected.Build.srcEvaluate := rfl
theorem srcLoad_ok : Extracted.Build.srcLoad = Expected.Build.srcLoad := rfl
theorem fileSum_ok : Extracted.Build.fileSum = Expected.Build.fileSum := rfl
theorem dirSum_ok : Extracted.Build.dirSum = Expected.Build.dirSum := rfl
theorem saveTargetInfo_ok : Extracted.Build.saveTargetInfo = Expected.Build.saveTargetInfo := rfl
theorem loadTargetInfo_ok : Extracted.Build.loadTargetInfo = Expected.Build.loadTargetInfo := rfl
theorem targetInfoPath_ok : Extracted.Build.targetInfoPath = Expected.Build.targetInfoPath := rfl
theorem stamp_ok : Extracted.Build.stamp = Expected.Build.stamp := rfl
/-- `function.attrs()`: the digest of `f.deps`, `len(f.sources)` and the generated files relative to the root, in order
(the model's `attrsOf`); compared with `info.Attrs` in `Evaluate` (`evaluate_ok`), written by the success record only -/
theorem fnAttrs_ok : Extracted.Build.fnAttrs = Expected.Build.fnAttrs := rfl
theorem gc_ok : Extracted.Build.gc = Expected.Build.gc := rfl
theorem link_ok : Extracted.Build.link = Expected.Build.link := rfl
theorem run_ok : Extracted.Build.run = Expected.Build.run := rfl
theorem applyOptions_ok : Extracted.Build.applyOptions = Expected.Build.applyOptions := rfl
/-- `RunOptions.apply` assigns BOTH flags on the nil-options path (the reset `applyOptions … none = ⟨false, false⟩`
models) and both on the other path -/
theorem applyOptions_nil_resets_ok : Extracted.Build.applyNilAssigns = ["always", "dryrun"] := rfl
theorem applyOptions_sets_ok : Extracted.Build.applySetAssigns = ["always", "dryrun"] := rfl
theorem builtinRun_ok : Extracted.Build.builtinRun = Expected.Build.builtinRun := rfl
/-- the REPL builtin `run`: the generated wrapper passes its variables in the order of `builtin_run`'s parameters, and
each keyword is unpacked into the variable of the same meaning (`always` / `dry_run` are adjacent bools: a swap would
type-check) -/
theorem run_wrapper_order_ok : Extracted.Build.runWrapperArgs = Extracted.Build.runParams := rfl
theorem run_params_ok : Extracted.Build.runParams = ["thread", "fn", "labelOrTarget", "always", "dryRun", "callback"] := rfl
theorem run_keywords_ok : Extracted.Build.runWrapperKeywords =
    ["label_or_target→labelOrTarget", "always??→always", "dry_run??→dryRun", "callback??→callback"] := rfl
theorem saveIndex_ok : Extracted.Build.saveIndex = Expected.Build.saveIndex := rfl
theorem indexInfo_ok : Extracted.Build.indexInfo = Expected.Build.indexInfo := rfl

end Dawn.Ties.Build
