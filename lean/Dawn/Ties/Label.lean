import Dawn.Model.Label
import Dawn.Extracted.Label
import Dawn.Ties.LabelExpected
/-!
Tie 1 for C12: the facts regenerated from `label/label.go`, `sourceFile.go` and `project.go` on this run are the
ones the model is written against. Each theorem is re-checked by the kernel on every run; a change to the
source that alters a fact breaks the corresponding obligation. (The wording of error messages is not a fact:
the extractor drops the arguments of `errors.New` / `fmt.Errorf`.)
-/
namespace Dawn.Ties.Label
open Dawn

def nats (b : List UInt8) : List Nat := b.map UInt8.toNat

theorem extraction_complete : Extracted.Label.extractionErrors = [] := rfl

/-- the bytes `Clean` compares with, in source order (`//` root test, single-slash test, the five `case`s, the
copy loop), are the model's `slash`, `colon`, `dot` -/
theorem clean_chars_ok : Extracted.Label.cleanChars =
    ([Label.slash, Label.slash, Label.slash, Label.slash, Label.slash, Label.colon, Label.slash,
      Label.dot, Label.slash, Label.dot, Label.dot, Label.slash, Label.slash, Label.slash, Label.colon].map UInt8.toNat) := by
  decide +kernel

/-- the offsets `Clean` uses (`len(pkg) >= 2`, `pkg[0]`, `pkg[1]`, `r = 2`, `r+1`, `r+2`, `out.w != 2`, `out.w != 0`) -/
theorem clean_ints_ok : Extracted.Label.cleanInts = [2, 0, 1, 0, 2, 1, 1, 1, 2, 2, 2, 0] := rfl

/-- `Parse`: separators `:` (last / first), `"//"`, `":"` for the project, `/` for the name; offsets `+1` -/
theorem parse_lits_ok : Extracted.Label.parseChars = [Label.colon, Label.colon, Label.slash].map UInt8.toNat ∧
    Extracted.Label.parseStrings = [[], [], [], [47, 47], [58], [], []] ∧
    Extracted.Label.parseInts = [1, 1, 1, 1, 1] := by decide +kernel

theorem new_lits_ok : Extracted.Label.newStrings = [[58, 47], [58], [], [47, 47], [58, 47]] := rfl

theorem string_lits_ok : Extracted.Label.stringChars = [Label.colon, Label.colon].map UInt8.toNat ∧
    Extracted.Label.stringStrings = [[], [], []] := by decide +kernel

theorem split_join_lits_ok : Extracted.Label.splitStrings = [[47, 47], [47, 47]] ∧ Extracted.Label.splitChars = [47, 47] ∧
    Extracted.Label.splitInts = [0, 2] ∧ Extracted.Label.joinChars = [47] ∧ Extracted.Label.isAbsStrings = [[47, 47]] := by decide +kernel

/-- `repoSourcePath`: empty test, `pkg[2:]`, `".."`, `"../"` -/
theorem repo_source_path_lits_ok : Extracted.Label.repoSourcePathStrings = [[], [], nats Label.dotdot, nats Label.dotdotSlash, []] ∧
    Extracted.Label.repoSourcePathInts = [2] := by decide +kernel

/-- `sourceLabel`: root package `//`, kind `source`, empty project -/
theorem source_label_lits_ok : Extracted.Label.sourceLabelStrings = [[47, 47], [47, 47], nats Label.sourceKind, []] ∧
    Extracted.Label.sourceLabelChars = [47] ∧ Extracted.Label.sourceLabelInts = [1, 1] := by decide +kernel

/-- the kind → directory rule of `targetInfoPath` -/
theorem target_info_path_lits_ok : Extracted.Label.targetInfoPathStrings =
    [[], nats Label.defaultKind, [], nats Label.defaultTarget, [47], nats Label.kindSuffix] ∧
    Extracted.Label.targetInfoPathInts = [2] := by decide +kernel

/-- everything else about the modelled functions (control flow, operators, calls, guards): unchanged since the
model was written -/
theorem bodies_ok :
    Extracted.Label.parseBody = Expected.Label.parseBody ∧
    Extracted.Label.newBody = Expected.Label.newBody ∧
    Extracted.Label.isAbsBody = Expected.Label.isAbsBody ∧
    Extracted.Label.relativeToBody = Expected.Label.relativeToBody ∧
    Extracted.Label.stringBody = Expected.Label.stringBody ∧
    Extracted.Label.lazybufIndexBody = Expected.Label.lazybufIndexBody ∧
    Extracted.Label.lazybufAppendBody = Expected.Label.lazybufAppendBody ∧
    Extracted.Label.lazybufStringBody = Expected.Label.lazybufStringBody ∧
    Extracted.Label.cleanBody = Expected.Label.cleanBody ∧
    Extracted.Label.splitBody = Expected.Label.splitBody ∧
    Extracted.Label.joinBody = Expected.Label.joinBody ∧
    Extracted.Label.repoSourcePathBody = Expected.Label.repoSourcePathBody ∧
    Extracted.Label.sourceLabelBody = Expected.Label.sourceLabelBody ∧
    Extracted.Label.targetInfoPathBody = Expected.Label.targetInfoPathBody :=
  ⟨rfl, rfl, rfl, rfl, rfl, rfl, rfl, rfl, rfl, rfl, rfl, rfl, rfl, rfl⟩

end Dawn.Ties.Label
