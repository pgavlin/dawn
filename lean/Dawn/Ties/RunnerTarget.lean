import Dawn.Model.Runner
import Dawn.Extracted.Runner
import Dawn.Ties.RunnerExpected
/-! Tie 1, targets (C04, C05): status, `start`, `wait`, `run`, `getTarget`, `Run`. -/
namespace Dawn.Ties.Runner
open Dawn

/-- `(*target).run`: enter, load, evaluate, set the status under the lock, broadcast, exit, Done -/
theorem run_order_ok : Extracted.Runner.runOrder = Runner.runOrder := rfl

/-- `Run`: start the requested target, wait for it, wait for every started target (D17) -/
theorem main_order_ok : Extracted.Runner.mainOrder = Runner.mainOrder := rfl

/-- `wait` is a `for` loop re-testing `status == statusRunning` (the model's guard of `waitDeps`);
    `running.Wait()` in `Run` is the only other blocking call -/
theorem status_wait_is_loop :
    Extracted.Runner.waitLoops[0]? = Runner.waitLoops[0]? ∧ Extracted.Runner.waitLoops[2]? = Runner.waitLoops[2]? ∧
    Extracted.Runner.waitLoops.length = 3 := by decide +kernel

/-- `Status`: idle is the zero value of a fresh target -/
theorem status_order : Extracted.Runner.statusConsts =
    ["statusIdle=iota", "statusRunning", "statusSucceeded", "statusFailed"] := rfl

theorem skel_newTarget_ok : Extracted.Runner.skel_newTarget = Expected.Runner.skel_newTarget := rfl
theorem skel_start_ok : Extracted.Runner.skel_target_start = Expected.Runner.skel_target_start := rfl
theorem skel_wait_ok : Extracted.Runner.skel_target_wait = Expected.Runner.skel_target_wait := rfl
theorem skel_run_ok : Extracted.Runner.skel_target_run = Expected.Runner.skel_target_run := rfl
theorem skel_getTarget_ok : Extracted.Runner.skel_runner_getTarget = Expected.Runner.skel_runner_getTarget := rfl
theorem skel_Run_ok : Extracted.Runner.skel_Run = Expected.Runner.skel_Run := rfl

end Dawn.Ties.Runner
