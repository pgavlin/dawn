import Dawn.Model.Config
import Dawn.Extracted.Config
import Dawn.Ties.ConfigExpected
/-!
Tie 1 for C19: the facts regenerated from `internal/project/{config.go,version.go}`, from `go.mod` and from the
go-toml v2 sources the module requires are the ones the model is written against. Re-checked by the kernel on
every run.
-/
namespace Dawn.Ties.Config
open Dawn

def nats (b : List UInt8) : List Nat := b.map UInt8.toNat

theorem extraction_complete : Extracted.Config.extractionErrors = [] := rfl

/-- the `print` formats of `WriteConfigFile`, in source order: `""` (the three emptiness tests), `name = %v\n`,
`version = %v\n`, `ignore = %v\n`, `[requirements]\n`, `""` (the empty-name test of `mustQuote`),
`%v = {path = %v, version = %v}\n` -/
theorem write_formats_ok : Extracted.Config.writeStrings =
    [[], nats Config.tName ++ [37, 118, 10], [], nats Config.tVersion ++ [37, 118, 10],
     nats Config.tIgnore ++ [37, 118, 10], nats Config.tHeader ++ [10], [],
     [37, 118] ++ nats Config.tReqOpen ++ [37, 118] ++ nats Config.tReqMid ++ [37, 118] ++ nats Config.tReqClose ++ [10]] := by
  decide +kernel

/-- `isPlainRune`: `A`–`Z`, `a`–`z`, `0`–`9`, `_`, `-` — the bounds `isPlainByte` uses -/
theorem plain_rune_ok : Extracted.Config.isPlainRuneChars = [65, 90, 97, 122, 48, 57, 95, 45] ∧
    (∀ b : UInt8, Config.isPlainByte b =
      ((65 ≤ b ∧ b ≤ 90) ∨ (97 ≤ b ∧ b ≤ 122) ∨ (48 ≤ b ∧ b ≤ 57) ∨ b = 95 ∨ b = 45 : Bool)) :=
  ⟨by decide +kernel, fun _ => rfl⟩

/-- the TOML keys of the configuration (struct tags) are the ones `parseSub` recognises -/
theorem struct_tags_ok : Extracted.Config.structTags =
    ["Path toml:\"path,inline\"", "Version toml:\"version,inline\"", "Name toml:\"name,omitempty\"",
     "Version toml:\"version,omitempty\"", "Ignore toml:\"ignore,omitempty\"",
     "Requirements toml:\"requirements,omitempty\""] := rfl

/-- `SplitPathVersion` looks for `@` up to the last `/`; `JoinPathVersion` drops `""`, `v0`, `v1` and joins with `@` -/
theorem path_version_lits_ok : Extracted.Config.splitPathVersionChars = [47, 64] ∧
    Extracted.Config.joinPathVersionStrings = [[], [118, 48], [118, 49], [37, 118, 64, 37, 118]] := by decide +kernel

/-- the encoder modelled is the one the module requires -/
theorem go_toml_version_ok : Extracted.Config.goTomlVersion = "v2.2.0" ∧ Extracted.Config.xModVersion = "v0.17.0" := ⟨rfl, rfl⟩

/-- go-toml's `characters.invalidAsciiTable` is `invalidAscii` -/
theorem invalid_ascii_ok : Extracted.Config.invalidAsciiTable =
    (List.range 256).filter (fun n => Config.invalidAscii (UInt8.ofNat n)) := by decide +kernel

/-- `needsQuoting`: `'`, CR, LF (and `InvalidAscii`) -/
theorem needs_quoting_lits_ok : Extracted.Config.tomlNeedsQuotingChars = [39, 13, 10] := rfl

/-- the escapes of `encodeQuotedString`, in source order -/
theorem quoted_string_lits_ok : Extracted.Config.tomlEncodeQuotedStringChars = [10, 92, 34, 8, 12, 10, 13, 9] ∧
    Extracted.Config.tomlEncodeQuotedStringStrings =
      [[34], [34, 34, 34], [48, 49, 50, 51, 52, 53, 54, 55, 56, 57, 65, 66, 67, 68, 69, 70],
       [92, 92], [92, 34], [92, 98], [92, 102], [92, 110], [92, 114], [92, 116], [92, 117, 48, 48]] ∧
    Extracted.Config.tomlEncodeQuotedStringInts = [0, 8, 10, 31, 127, 4, 15] := by decide +kernel

/-- `encodeSlice` / `encodeSliceAsArray`: `[]`, `[`, `, `, `]` -/
theorem array_lits_ok : Extracted.Config.tomlEncodeSliceStrings = [[91, 93]] ∧
    Extracted.Config.tomlEncodeSliceAsArrayStrings = [nats Config.commaSpace, [44, 10]] ∧
    Extracted.Config.tomlEncodeSliceAsArrayChars = [91, 10, 10, 93] := by decide +kernel

/-- `LoadConfigFile` hands `LoadConfigBytes` the whole file: its argument is bound once, by `os.ReadFile` (no bounded
or partial read between the file and `parseSub`'s input), and the rest of the function is unchanged -/
theorem load_file_reads_whole_file : Extracted.Config.loadConfigFileReadCalls = ["os.ReadFile"] ∧
    Extracted.Config.loadConfigFileBody = Expected.Config.loadConfigFileBody := ⟨rfl, rfl⟩

/-- `dawn get` and `dawn tidy` are `Config.rewrite`: between `LoadConfigFile` and `WriteConfigFile` the only thing
assigned is the field `Requirements` of the loaded configuration, that variable is never replaced as a whole, and
it is what `WriteConfigFile` receives -/
theorem rewrite_shape_ok :
    Extracted.Config.getAssignedFields = ["Requirements"] ∧ Extracted.Config.getReassignsConfig = false ∧
    Extracted.Config.getWritesLoadedConfig = true ∧
    Extracted.Config.tidyAssignedFields = ["Requirements"] ∧ Extracted.Config.tidyReassignsConfig = false ∧
    Extracted.Config.tidyWritesLoadedConfig = true := ⟨rfl, rfl, rfl, rfl, rfl, rfl⟩

/-- the two `RunE` bodies (flag handling, resolver construction, error paths): unchanged -/
theorem command_bodies_ok :
    Extracted.Config.getRunBody = Expected.Config.getRunBody ∧
    Extracted.Config.tidyRunBody = Expected.Config.tidyRunBody := ⟨rfl, rfl⟩

/-- everything else about the modelled functions: unchanged since the model was written -/
theorem bodies_ok :
    Extracted.Config.loadBody = Expected.Config.loadBody ∧
    Extracted.Config.writeBody = Expected.Config.writeBody ∧
    Extracted.Config.encodeValueBody = Expected.Config.encodeValueBody ∧
    Extracted.Config.isPlainRuneBody = Expected.Config.isPlainRuneBody ∧
    Extracted.Config.cleanPathBody = Expected.Config.cleanPathBody ∧
    Extracted.Config.splitPathVersionBody = Expected.Config.splitPathVersionBody ∧
    Extracted.Config.joinPathVersionBody = Expected.Config.joinPathVersionBody ∧
    Extracted.Config.tomlEncodeStringBody = Expected.Config.tomlEncodeStringBody ∧
    Extracted.Config.tomlNeedsQuotingBody = Expected.Config.tomlNeedsQuotingBody ∧
    Extracted.Config.tomlEncodeLiteralStringBody = Expected.Config.tomlEncodeLiteralStringBody ∧
    Extracted.Config.tomlEncodeQuotedStringBody = Expected.Config.tomlEncodeQuotedStringBody ∧
    Extracted.Config.tomlEncodeSliceBody = Expected.Config.tomlEncodeSliceBody ∧
    Extracted.Config.tomlEncodeSliceAsArrayBody = Expected.Config.tomlEncodeSliceAsArrayBody :=
  ⟨rfl, rfl, rfl, rfl, rfl, rfl, rfl, rfl, rfl, rfl, rfl, rfl, rfl⟩

end Dawn.Ties.Config
