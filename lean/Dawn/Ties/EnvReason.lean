import Dawn.Extracted.Env
/-!
Tie for the reason shown for a rebuild (property C16, stream `env.reason` of `checks/env_reason.py`): which reason wins
when several conditions hold. `runTarget.Evaluate` (target.go) chooses it in a switch whose cases are tried in order;
the first case — the environment differs: keep the reason `diffEnv` computed — is what gives the parts of the
environment precedence over "always", "out-of-date dependencies" and "failed during last run". The ground-truth table
of the stream is written against exactly this order.
-/
namespace Dawn.Ties.EnvReason
open Dawn

theorem reasonPrecedence_ok : Extracted.Env.reasonPrecedence =
    ["!upToDate => keep",
     "proj.always => set always",
     "!depsUpToDate => set out-of-date dependencies: %v",
     "info.Rerun => set failed during last run"] := rfl

end Dawn.Ties.EnvReason
