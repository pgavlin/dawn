import Dawn.Model.Env
import Dawn.Extracted.Env
import Dawn.Ties.EnvExpected
/-!
Tie 1 for C08: the facts regenerated from `function.go`, `pickle/encode.go` and `pickle/opcodes.go` on this
run are the ones the model `Dawn.Env` is written against. Each theorem is re-checked by the kernel on every
run; a change to the source that alters a fact breaks the corresponding obligation.
-/
namespace Dawn.Ties.Env
open Dawn

theorem extraction_complete : Extracted.Env.extractionErrors = [] := rfl

/-- `functionEnvKeys` -/
theorem envKeys_ok : Extracted.Env.envKeys = Env.envKeys := rfl

/-- the cases of `envPickler`: which Go type is pickled under which module / name with how many arguments -/
theorem picklerCases_ok : Extracted.Env.picklerCases =
    ["*function -> " ++ Env.hostModuleS ++ "." ++ Env.nameTargetS ++ "/1",
     "*starlark.Builtin -> " ++ Env.hostModuleS ++ "." ++ Env.nameBuiltinS ++ "/2",
     "*starlark.FunctionCode -> " ++ Env.hostModuleS ++ "." ++ Env.nameCodeS ++ "/4",
     "*starlark.Function -> " ++ Env.hostModuleS ++ "." ++ Env.nameFuncS ++ "/3",
     "default -> " ++ Env.hostModuleS ++ "." ++ Env.nameMandatoryS ++ "/0"] := by decide +kernel

/-- `newEnvPickler` answers with the marker `(name, index)` for exactly builtins, functions and function code -/
theorem recursiveCases_ok : Extracted.Env.recursiveCases =
    ["*starlark.Builtin|*starlark.Function|*starlark.FunctionCode -> " ++ Env.hostModuleS ++ "." ++ Env.nameRecursiveS ++ "/2"] := by
  decide +kernel

/-- the code is the repaired one the theorems of `Props/Env.lean` speak about: `functionEnv` and `evaluate`
encode with `newEnvPickler()`, the batch loops do not re-encode the container, memo ids count MEMOIZE ops,
builtins carry name and receiver, function code carries its signature, the `mandatory` placeholder is pickled -/
theorem cfg_ok : ({ fixed := Extracted.Env.cfgFixed, reencode := Extracted.Env.cfgReencode,
                    memoCounter := Extracted.Env.cfgMemoCounter, builtinIdentity := Extracted.Env.cfgBuiltinIdentity,
                    signature := Extracted.Env.cfgSignature, mandatory := Extracted.Env.cfgMandatory } : Env.Cfg)
    = Env.Cfg.current := by decide +kernel

/-- every batch loop of the encoder uses the model's batch size -/
theorem batch_ok : Extracted.Env.batchSizes = List.replicate 4 Env.Cfg.current.batch := by decide +kernel

/-- `diffEnv` passes the model's limit to `EqualDepth` and to `DiffDepth` -/
theorem limits_ok : Extracted.Env.compareLimits = [Env.compareLimit, Env.compareLimit] := rfl

/-- `diffEnv` returns "up to date" for equal encodings before it compares anything structurally -/
theorem equalEncodingsFirst_ok : Extracted.Env.equalEncodingsFirst = true := rfl

/-- … and for differing encodings it never answers "up to date", whatever the structural comparison says (D25) -/
theorem equalDecodingsNotUpToDate_ok : Extracted.Env.equalDecodingsUpToDate = false := rfl

/-- the reason switch of `diffEnv` has the case "the environments differ in no part that is listed" (D28) -/
theorem reasonHandlesNoKnownPart_ok : Extracted.Env.reasonHandlesNoKnownPart = true := rfl

/-- every key `envUnpickler` writes into a decoded environment is listed in `functionEnvKeys`, and every listed key
is written: a difference between two decoded environments always has a name -/
theorem unpicklerKeys_ok :
    (Extracted.Env.unpicklerKeys.all (Extracted.Env.envKeys.contains ·) &&
     Extracted.Env.envKeys.all (Extracted.Env.unpicklerKeys.contains ·)) = true := by decide +kernel

/-- the opcode bytes -/
theorem opcodes_ok : Extracted.Env.opcodes = Env.opcodeList := rfl

/-- order of lookups, writes, recursive calls and memoisations in `Encoder.encode` / `encodeComplex` (memo lookup
first; containers memoised before their contents; host objects after their arguments) -/
theorem encodeSkeleton_ok : Extracted.Env.encodeSkeleton = Expected.Env.encodeSkeleton := rfl

/-- everything else about the modelled functions: unchanged since the model was written -/
theorem envPickler_ok : Extracted.Env.envPicklerBody = Expected.Env.envPicklerBody := rfl
theorem newEnvPickler_ok : Extracted.Env.newEnvPicklerBody = Expected.Env.newEnvPicklerBody := rfl
theorem envUnpickler_ok : Extracted.Env.envUnpicklerBody = Expected.Env.envUnpicklerBody := rfl
theorem functionEnv_ok : Extracted.Env.functionEnvBody = Expected.Env.functionEnvBody := rfl
theorem diffEnv_ok : Extracted.Env.diffEnvBody = Expected.Env.diffEnvBody := rfl
theorem upToDate_ok : Extracted.Env.upToDateBody = Expected.Env.upToDateBody := rfl
theorem assocList_ok : Extracted.Env.makeDictFromAssociationListBody = Expected.Env.makeDictFromAssociationListBody := rfl

end Dawn.Ties.Env
