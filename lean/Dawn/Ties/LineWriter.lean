import Dawn.Model.LineWriter
import Dawn.Extracted.LineWriter
import Dawn.Ties.LineWriterExpected
/-!
Tie 1 for C18: the facts regenerated from `lineWriter.go`, `events.go`, `target.go`, `function.go` and
`project.go` on this run are the ones the models are written against. Each theorem is re-checked by the kernel
on every run; a change to the source that alters a fact breaks the corresponding obligation.
-/
namespace Dawn.Ties.LineWriter
open Dawn

theorem extraction_complete : Extracted.LineWriter.extractionErrors = [] := rfl

/-- `(*lineWriter).Write`: control flow, operators, calls unchanged since `LineWriter.write` was written -/
theorem write_body_ok : Extracted.LineWriter.writeBody = Expected.LineWriter.writeBody := rfl

/-- `(*lineWriter).Flush` (with the `Reset` of the D10 repair) is what `LineWriter.flush` models -/
theorem flush_body_ok : Extracted.LineWriter.flushBody = Expected.LineWriter.flushBody := rfl

/-- the writer is attached as stdout and stderr of the body's thread and flushed when the body returns -/
theorem attach_ok :
    Extracted.LineWriter.functionEvaluateOut = Expected.LineWriter.functionEvaluateOut ∧
    Extracted.LineWriter.functionNewThreadOut = Expected.LineWriter.functionNewThreadOut := ⟨rfl, rfl⟩

/-- The single-writer hypothesis of `C18_lines` (one sequence of `Write` calls on one builder): the body's thread
gets ONE writer as both its stdout and its stderr (`util.SetStdio(thread, f.out, f.out)`), `util.Stdio` returns
those two unchanged, and the builtins that run processes (`os.exec`, `os.output`, `sh.exec`, `sh.output`) hand
them to `os/exec` / the shell interpreter as they are — no wrapper, no tee. Because the two are the identical
writer, `os/exec` feeds it from a single pipe and a single copying goroutine. A change that wraps one of them
(e.g. `io.MultiWriter(stderr, …)`) makes two goroutines write to the unsynchronised builder, and breaks this tie. -/
theorem single_writer_ok :
    Extracted.LineWriter.setStdioArgs = ["f.out", "f.out"] ∧
    (∀ a ∈ Extracted.LineWriter.setStdioArgs, ∀ b ∈ Extracted.LineWriter.setStdioArgs, a = b) ∧
    Extracted.LineWriter.utilStdioBody = Expected.LineWriter.utilStdioBody ∧
    Extracted.LineWriter.osExecStdio = Expected.LineWriter.osExecStdio ∧
    Extracted.LineWriter.osOutputStdio = Expected.LineWriter.osOutputStdio ∧
    Extracted.LineWriter.shExecStdio = Expected.LineWriter.shExecStdio ∧
    Extracted.LineWriter.shOutputStdio = Expected.LineWriter.shOutputStdio :=
  ⟨rfl, by decide +kernel, rfl, rfl, rfl, rfl, rfl⟩

/-- the event-emitting skeleton of `runTarget.Evaluate` is the control flow `Events.evaluate` follows -/
theorem evaluate_skeleton_ok : Extracted.LineWriter.evaluateSkeleton = Expected.LineWriter.evaluateSkeleton := rfl

/-- How `Evaluate` recognises a missing dependency (model: `Dep.missing` ⇒ a lone `failed`): by a type switch on
the dynamic type of the dependency's error, with the cases `UnknownTargetError` and `runner.CyclicDependencyError`
— so what `LoadTarget` returns for an unknown label must BE an `UnknownTargetError`, not wrap one: every `return`
of `unknownTarget` is the bare conversion `UnknownTargetError(…)`, and `LoadTarget` passes it on unchanged. -/
theorem missing_dependency_classification_ok :
    Extracted.LineWriter.depErrorClassification =
      ["typeswitch dep.Error.(type): UnknownTargetError, runner.CyclicDependencyError"] ∧
    (∀ c ∈ Extracted.LineWriter.unknownTargetReturns, c = "UnknownTargetError") ∧
    Extracted.LineWriter.unknownTargetReturns ≠ [] ∧
    Extracted.LineWriter.loadTargetBody = Expected.LineWriter.loadTargetBody := ⟨rfl, by decide +kernel, by decide +kernel, rfl⟩

/-- `Project.Run` applies the options OF THIS RUN first — `RunOptions.apply` sets `always` and `dryrun` from the
options, and resets both when there are none — so the facts `always` / `dryRun` of `Events.evaluate` are those of
the run, never left over from an earlier one -/
theorem run_options_ok : Extracted.LineWriter.runOptionsApplyBody = Expected.LineWriter.runOptionsApplyBody := rfl

/-- `Project.Run` is `runner.Run`, then `RunDone(err)`, then `return err` (`Events.projectRun`) -/
theorem run_body_ok : Extracted.LineWriter.runBody = Expected.LineWriter.runBody := rfl

/-- every `runEvents` method reports the kind string the model uses for that event — which is the method's own name -/
theorem event_kinds_ok : Extracted.LineWriter.eventKinds =
    [("Print", Events.printKind),
     ("TargetUpToDate", Events.Ev.upToDate.kind),
     ("TargetEvaluating", Events.Ev.evaluating.kind),
     ("TargetFailed", Events.Ev.failed.kind),
     ("TargetSucceeded", Events.Ev.succeeded.kind),
     ("RunDone", Events.runDoneKind)] ∧
    ∀ p ∈ Extracted.LineWriter.eventKinds, p.1 = p.2 := ⟨rfl, by decide +kernel⟩

end Dawn.Ties.LineWriter
