import Dawn.Model.Glob
import Dawn.Extracted.Glob
import Dawn.Ties.GlobExpected
/-!
Tie 1 for C17: the facts regenerated from `util/glob.go` on this run are the ones the model is written
against. Each theorem is re-checked by the kernel on every run; a change to the source that alters a fact
breaks the corresponding obligation.
-/
namespace Dawn.Ties.Glob
open Dawn

theorem extraction_complete : Extracted.Glob.extractionErrors = [] := rfl

/-- the text written around and between the patterns: `(?s)^(?:` … `|` … `(`…`)` … `)$`, and per token -/
theorem writes_ok : Extracted.Glob.writes = ["(?s)^(?:", "|", "(", ".*", "[^/]*", ".", "\\", ")", ")$"] := rfl

/-- the five `case` lists: backslash; the escapable characters; `*`; `?`; the characters written with a backslash -/
theorem cases_ok : Extracted.Glob.cases =
    [['\\'], Glob.escapable, ['*'], ['?'], Glob.quoted.take 11] := by decide +kernel

/-- model constants agree with the extracted texts -/
theorem emit_ok :
    Glob.emitTok .dstar = (Extracted.Glob.writes[3]!).toList ∧
    Glob.emitTok .star = (Extracted.Glob.writes[4]!).toList ∧
    Glob.emitTok .q = (Extracted.Glob.writes[5]!).toList := by decide +kernel

/-- everything else about the function (control flow, operators, calls): unchanged since the model was written -/
theorem body_ok : Extracted.Glob.body = Expected.Glob.body := rfl

/-- the users of glob sets (`glob()` in project_builtins.go and lib/os, `Project.ignored`, `Project.loadPackage`)
are the functions `globSelect` / `packageLoaded` were written against -/
theorem users_ok :
    Extracted.Glob.builtinGlobBody = Expected.Glob.builtinGlobBody ∧
    Extracted.Glob.osGlobBody = Expected.Glob.osGlobBody ∧
    Extracted.Glob.ignoredBody = Expected.Glob.ignoredBody ∧
    Extracted.Glob.loadPackageBody = Expected.Glob.loadPackageBody := ⟨rfl, rfl, rfl, rfl⟩

/-- watch mode consults the ignore list on the changed file's whole project-relative path, and a target body's
`os.glob` walks the thread's working directory (`function.newThread`, `util.Getwd`) -/
theorem watch_and_wd_ok :
    Extracted.Glob.watchBody = Expected.Glob.watchBody ∧
    Extracted.Glob.newThreadBody = Expected.Glob.newThreadBody ∧
    Extracted.Glob.getwdBody = Expected.Glob.getwdBody := ⟨rfl, rfl, rfl⟩

end Dawn.Ties.Glob
