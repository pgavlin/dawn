import Dawn.Model.Mvs
import Dawn.Extracted.Mvs
import Dawn.Ties.MvsExpected
/-!
Tie 1 for C11: the facts about the requirement edits (`get`, `tidy`, upgrade-all, queries, `Reqs.Upgrade`,
`Reqs.Previous`, the third-party `Req`/`ReqList`/`Upgrade`/`UpgradeAll`/`Downgrade`) regenerated on this run are the ones
the model was written against. Kept apart from `Dawn/Ties/Mvs.lean` so that a change to an edit operation does not
un-discharge the build-list obligations of C10.
-/
namespace Dawn.Ties.MvsEdit
open Dawn

/-- every C11-only fact was found in the sources -/
theorem extraction_complete_c11 : Extracted.Mvs.extractionErrorsC11 = [] := rfl

/-- `Reqs.Previous` starts its search from `"none"`, the model's `previous` from `Ver.none` (D13: it used to be `""`) -/
theorem previous_start_ok : Extracted.Mvs.previousStart = Mvs.Ver.none.render := rfl

/-- control flow, operators, calls and constants of the requirement edits (`transformReqs`, `Get`/`get`, `UpgradeAll`, `Tidy`, `Reqs.Upgrade`, `Reqs.Previous`,
query parsing and resolution, `listVersions`, `findProjectRepository`, the `get` and `tidy` commands) -/
theorem bodies_c11_ok : Extracted.Mvs.bodiesC11 = Expected.Mvs.bodiesC11 := rfl

/-- `Req`, `ReqList`, `UpgradeAll`, `Upgrade`, `Downgrade`, `override.Required` of `github.com/pgavlin/mvs` -/
theorem third_bodies_c11_ok : Extracted.Mvs.thirdBodiesC11 = Expected.Mvs.thirdBodiesC11 := rfl

/-- the model's `Env.tags` holds canonical versions only (non-canonical tags are dropped at the boundary: D30). That is what
the code does as long as the only functions of `internal/mvs` that read the repository's raw tag list are the filter
`taggedVersions` itself and the revision lookup of a (canonical) requirement, which matches its tag exactly -/
theorem raw_tag_readers_ok : Extracted.Mvs.rawTagReaders =
    ["internal/mvs/resolver.go:resolveProjectRevision", "internal/mvs/resolver.go:taggedVersions"] := rfl

end Dawn.Ties.MvsEdit
