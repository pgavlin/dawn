import Dawn.Model.Pickle
import Dawn.Extracted.Pickle
import Dawn.Ties.PickleExpected
/-!
Tie 1 for C07 / C15: the facts regenerated from `pickle/{opcodes,encode,decode}.go` on this run are the ones the
model is written against. Each theorem is re-checked by the kernel on every run; a change to the source that alters
a fact breaks the corresponding obligation.
-/
namespace Dawn.Ties.Pickle
open Dawn Dawn.Pickle

theorem extraction_complete : Extracted.Pickle.extractionErrors = [] := rfl

/-- every opcode the model implements has, in `opcodes.go`, the byte the model uses -/
theorem opcodes_ok : ∀ p ∈ decodedOpcodes, (p.1, p.2.toNat) ∈ Extracted.Pickle.opcodes := by
  -- evaluated with the byte compared first: comparing two strings is the dear part
  have h : (decodedOpcodes.all fun p => Extracted.Pickle.opcodes.any fun q => q.2 == p.2.toNat && q.1 == p.1) = true := by
    decide +kernel
  intro p hp
  obtain ⟨q, hq, hb⟩ := List.any_eq_true.mp (List.all_eq_true.mp h p hp)
  obtain ⟨h2, h1⟩ := Bool.and_eq_true_iff.mp hb
  exact (Prod.ext (beq_iff_eq.mp h1) (beq_iff_eq.mp h2) : q = (p.1, p.2.toNat)) ▸ hq

/-- no two opcode constants share a byte (so the `switch` arms are disjoint) -/
theorem opcodes_distinct : (Extracted.Pickle.opcodes.map (·.2)).Nodup := by decide +kernel

/-- `decode` has a `case` for exactly the opcodes of the model, in the model's order, and a `default` arm -/
theorem decode_cases_ok :
    Extracted.Pickle.decodeCases = decodedOpcodes.map (·.1) ∧ Extracted.Pickle.decodeHasDefault = true := ⟨rfl, rfl⟩

/-- the dispatch table of the byte layer lists the same opcodes, in the same order -/
theorem arm_table_ok : armTable.map (·.1) = decodedOpcodes.map (·.2) := by decide +kernel

/-- D1: the BININT2 arm shifts the high byte by 8 (`DecCfg.oldBinint2 = false`) -/
theorem binint2_ok : Extracted.Pickle.binint2Shifts = [8] ∧ ({} : DecCfg).oldBinint2 = false := by decide +kernel

/-- the four batch loops cut at `batchSize` -/
theorem batch_ok : Extracted.Pickle.batchLiterals.filter (· ≠ 0) = List.replicate 4 batchSize := by decide +kernel

/-- D2: no batch loop re-encodes the container (`EncCfg.rebatch = false`) -/
theorem rebatch_ok : Extracted.Pickle.rebatchSites = [] ∧ ({} : EncCfg).rebatch = false := by decide +kernel

/-- memo ids and lengths switch to the 4-byte form at 256; BININT1 / BININT2 / BININT at 2^8, 2^16, int32 bounds -/
theorem widths_ok : Extracted.Pickle.widthLiterals = [256, 256, 65536, 256] ∧ Extracted.Pickle.int32Bounds = 2 := by decide +kernel

/-- `type failure error`: an interface, so `recover().(failure)` matches every `error` including `runtime.Error` -/
theorem failure_ok : Extracted.Pickle.failureType = "error" ∧
    Extracted.Pickle.failureIsInterface = ({} : DecCfg).failureIsInterface := ⟨rfl, rfl⟩

/-- `envUnpickler` switches on exactly the names of the model `envHost`, in its order -/
theorem env_names_ok : Extracted.Pickle.envNames =
    [bTarget, bBuiltin, bRecursive, bMandatory, bFunctionCode, bFunction].map (·.map UInt8.toNat) := by decide +kernel

/-- the strings it produces: the Mandatory marker and the dict keys, in source order -/
theorem env_strings_ok : Extracted.Pickle.envStrings =
    [bMandatoryText, kNames, kConstants, kPredeclared, kUniversal, kFunctions, kGlobals, kCode, kParameters, kDefaults,
     kFreeVars].map (·.map UInt8.toNat) := by decide +kernel

/-- `envUnpickler` and `makeDictFromAssociationList` contain no explicit `panic`: whatever panics in them is a
`runtime.Error` (the model's `runtimePanic`), never the `otherPanic` that `C15_env_host_sane` excludes; and their
bodies are the ones `envHost` was written against -/
theorem env_body_ok : Extracted.Pickle.envExplicitPanics = 0 ∧
    Extracted.Pickle.bodyEnvUnpickler = Expected.Pickle.bodyEnvUnpickler ∧
    Extracted.Pickle.bodyMakeDictFromAssociationList = Expected.Pickle.bodyMakeDictFromAssociationList :=
  ⟨by decide +kernel, rfl, rfl⟩

/-- everything else about the modelled functions (control flow, operators, calls): unchanged since the model was written -/
theorem bodies_ok :
    Extracted.Pickle.bodyWriterWrite = Expected.Pickle.bodyWriterWrite ∧
    Extracted.Pickle.bodyMemoized = Expected.Pickle.bodyMemoized ∧
    Extracted.Pickle.bodyEncMemoize = Expected.Pickle.bodyEncMemoize ∧
    Extracted.Pickle.bodyEncodeString = Expected.Pickle.bodyEncodeString ∧
    Extracted.Pickle.bodyEncode = Expected.Pickle.bodyEncode ∧
    Extracted.Pickle.bodyEncodeComplex = Expected.Pickle.bodyEncodeComplex ∧
    Extracted.Pickle.bodyEncodeTop = Expected.Pickle.bodyEncodeTop ∧
    Extracted.Pickle.bodyReaderRead = Expected.Pickle.bodyReaderRead ∧
    Extracted.Pickle.bodyPush = Expected.Pickle.bodyPush ∧
    Extracted.Pickle.bodyPeek = Expected.Pickle.bodyPeek ∧
    Extracted.Pickle.bodyPop = Expected.Pickle.bodyPop ∧
    Extracted.Pickle.bodyDecMemoize = Expected.Pickle.bodyDecMemoize ∧
    Extracted.Pickle.bodyGet = Expected.Pickle.bodyGet ∧
    Extracted.Pickle.bodyReadByte = Expected.Pickle.bodyReadByte ∧
    Extracted.Pickle.bodyReadUint32 = Expected.Pickle.bodyReadUint32 ∧
    Extracted.Pickle.bodyReadUint64 = Expected.Pickle.bodyReadUint64 ∧
    Extracted.Pickle.bodyDecodeString = Expected.Pickle.bodyDecodeString ∧
    Extracted.Pickle.bodyDecode = Expected.Pickle.bodyDecode ∧
    Extracted.Pickle.bodyDecodeTop = Expected.Pickle.bodyDecodeTop :=
  ⟨rfl, rfl, rfl, rfl, rfl, rfl, rfl, rfl, rfl, rfl, rfl, rfl, rfl, rfl, rfl, rfl, rfl, rfl, rfl⟩

end Dawn.Ties.Pickle
