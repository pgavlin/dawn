import Dawn.Model.Runner
import Dawn.Extracted.Runner
import Dawn.Ties.RunnerExpected
/-! Tie 1, `EvaluateTargets` and the cycle walk (C04, C05). -/
namespace Dawn.Ties.Runner
open Dawn

/-- `EvaluateTargets` performs its operations in the order of the model's program counters -/
theorem eval_order_ok : Extracted.Runner.evalOrder = Runner.evalOrder := rfl

/-- deadlock freedom (the walk invariant) needs: the waiting set is published *before* the cycle walk,
    and the walk precedes the wait -/
theorem publish_before_walk :
    Extracted.Runner.evalOrder.idxOf "Swap" < Extracted.Runner.evalOrder.idxOf "if(checkDeps)" ∧
    Extracted.Runner.evalOrder.idxOf "if(checkDeps)" < Extracted.Runner.evalOrder.idxOf "range(wait)" ∧
    "Swap" ∈ Extracted.Runner.evalOrder ∧ "if(checkDeps)" ∈ Extracted.Runner.evalOrder ∧
    "range(wait)" ∈ Extracted.Runner.evalOrder := by decide +kernel

/-- every dependency is started before the waiting set is published (so a waited-for target is never idle) -/
theorem start_before_publish :
    Extracted.Runner.evalOrder.idxOf "range(getTarget,start)" < Extracted.Runner.evalOrder.idxOf "Swap" ∧
    "range(getTarget,start)" ∈ Extracted.Runner.evalOrder := by decide +kernel

/-- the waiting set is withdrawn when `EvaluateTargets` returns (deferred right after publication) -/
theorem unpublish_deferred :
    Extracted.Runner.evalOrder.idxOf "defer(Swap(nil))" = Extracted.Runner.evalOrder.idxOf "Swap" + 1 := by decide +kernel

theorem skel_check_ok : Extracted.Runner.skel_engine_check = Expected.Runner.skel_engine_check := rfl
theorem skel_checkDeps_ok : Extracted.Runner.skel_engine_checkDeps = Expected.Runner.skel_engine_checkDeps := rfl
theorem skel_EvaluateTargets_ok :
    Extracted.Runner.skel_engine_EvaluateTargets = Expected.Runner.skel_engine_EvaluateTargets := rfl

end Dawn.Ties.Runner
