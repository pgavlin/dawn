import Dawn.Model.Runner
import Dawn.Extracted.Runner
import Dawn.Ties.RunnerExpected
/-! Tie 1, the client protocol the model assumes (C04, C05): `runTarget.Evaluate` (target.go) calls
`EvaluateTargets` exactly once, outside any loop, with its whole dependency list, and fails when any result
carries an error; `Project.Run` (project.go) calls `runner.Run` exactly once. -/
namespace Dawn.Ties.Runner
open Dawn

theorem client_calls_once : Extracted.Runner.clientCalls =
    ["target.go:runTarget.Evaluate:EvaluateTargets:calls=1:inLoop=false:variadic=true",
     "project.go:Project.Run:Run:calls=1:inLoop=false:variadic=false"] := rfl

/-- `localOutcome`: any result error fails the target before its body runs -/
theorem client_fails_on_result_error :
    Extracted.Runner.skel_client_Evaluate = Expected.Runner.skel_client_Evaluate := rfl

/-- one runner record per PROJECT target: `builtin_target` records every dependency — string or target object,
    relative or absolute — as the `String()` of its resolved label, the same canonical key `Project.LoadTarget` and
    `proj.targets` use (the runner keys its registry by the raw string it is given) -/
theorem deps_recorded_canonically :
    Extracted.Runner.skel_builtin_target_deps = Expected.Runner.skel_builtin_target_deps := rfl

end Dawn.Ties.Runner
