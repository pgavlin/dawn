import Dawn.Model.Loader
import Dawn.Model.LoaderReload
import Dawn.Extracted.Loader
import Dawn.Ties.LoaderExpected
/-!
Tie 1 for C06: the facts regenerated from `module.go` / `project.go` on this run are the ones the model
(`Version.fixed`) is written against. Each theorem is re-checked by the kernel on every run; a change to the source
that alters a fact breaks the corresponding obligation: walking the chain with the receiver's lock again (D4), returning
from `load` without `done()` (D24), taking
`m.m` before the walk, turning the `for` around `cond.Wait` into an `if`, setting `loaded` outside the lock or after
the `Broadcast`, publishing `loading` after the wait instead of before it, …
-/
namespace Dawn.Ties.Loader
open Dawn

theorem extraction_complete : Extracted.Loader.extractionErrors = [] := rfl

/-- `wait`: the chain walk comes first and holds no lock of the receiver; `m.m` is taken (Unlock deferred) only for
`for !m.loaded { m.cond.Wait() }` — a `for`, so a wake-up re-checks the condition -/
theorem wait_shape_ok : Extracted.Loader.waitShape = Loader.waitShape .fixed := rfl

/-- the walk starts with `m.getLoading()` and advances with `loading.getLoading()`: every read of a `loading` field is
made under that module's own mutex, none while holding the receiver's -/
theorem walk_ok : Extracted.Loader.walkFirst = Loader.walkFirst .fixed ∧
    Extracted.Loader.walkNext = Loader.walkNext .fixed := ⟨rfl, rfl⟩

/-- `done`: result stored, then `loaded = true` under `m.m`, then `Broadcast` (not `Signal`: every sleeper is woken) -/
theorem done_shape_ok : Extracted.Loader.doneShape = Loader.doneShape .fixed := rfl

/-- `load`: when the module's environment cannot be set up the error is returned through `m.done(nil, err)`, so waiters
are woken and receive it (D24: it used to be a plain `return nil, err`) -/
theorem env_error_done_ok : Extracted.Loader.envErrorPath = Loader.envErrorPath .fixed := rfl

/-- `Reload` (directly, through `load`, or through a helper they call before the goroutines start) re-creates the module
registry together with the flag and target tables and the index-only marker: every load starts from an empty registry,
which is what lets the model treat a reload as a fresh run (`C06_reload_is_fresh_load`) -/
theorem reload_resets_ok : Extracted.Loader.reloadResets = Loader.reloadResets := rfl

/-- the module registry is indexed by the whole label (project included): a module of the model is a full label -/
theorem module_key_ok : Extracted.Loader.moduleKey = Loader.moduleKey := rfl

/-- everything else about the synchronisation skeletons: unchanged since the model was written -/
theorem getLoading_skeleton_ok : Extracted.Loader.getLoadingSkeleton = Expected.Loader.getLoadingSkeleton := rfl
theorem setLoading_skeleton_ok : Extracted.Loader.setLoadingSkeleton = Expected.Loader.setLoadingSkeleton := rfl
theorem done_skeleton_ok : Extracted.Loader.doneSkeleton = Expected.Loader.doneSkeleton := rfl
theorem wait_skeleton_ok : Extracted.Loader.waitSkeleton = Expected.Loader.waitSkeleton := rfl
theorem load_skeleton_ok : Extracted.Loader.loadSkeleton = Expected.Loader.loadSkeleton := rfl
theorem loadModule_skeleton_ok : Extracted.Loader.loadModuleSkeleton = Expected.Loader.loadModuleSkeleton := rfl
theorem loadPackage_skeleton_ok : Extracted.Loader.loadPackageSkeleton = Expected.Loader.loadPackageSkeleton := rfl

end Dawn.Ties.Loader
