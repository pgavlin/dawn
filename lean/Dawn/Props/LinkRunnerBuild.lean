import Dawn.Props.Runner
import Dawn.Props.Build
/-!
# C04 discharges the hypothesis of the incremental engine's theorems

`Dawn/Props/Build.lean` (C01, C02, C03, C13, C14) takes the runner's guarantee as the hypothesis
`Build.RunnerOrder t ord`: the list `ord` of visited labels has no duplicates and every defined label comes after all of
`Build.depsOf` it. Here that hypothesis is proved of the order in which the real runner's model computes outcomes.

* The order is the ghost list `State.order` of `Dawn/Model/Runner.lean` (`State.evalOrder`): a label is appended by the
  step that computes its outcome — the failed `LoadTarget` of an unknown target, the rest of `Evaluate` (`evalRest`: in
  dawn the up-to-date test and the body, i.e. `Build.visit`) of a known one. No guard and no other variable reads it.
  It orders *completions of the dependency request*, not starts: a dependent is appended after its dependencies because
  `C04_deps_first` holds when it passes `evalRest`.
* Adapter (`Adapts t P`): for every label the loaded project defines, `LoadTarget` succeeds (`known`) and the labels
  `runTarget.Evaluate` passes to `EvaluateTargets` are `Build.depsOf` (`Target.dependencies()` after `link`). Labels the
  project does not define are unconstrained on both sides (`Build.Sorted` asks nothing of them; the runner appends them
  when their load fails). `paramsOf` is the canonical instance.
* Scope: builds in which no cyclic-dependency error is handed out — in particular every build of a project whose graph
  reachable from the requested target is acyclic (`C05_no_false_cycle`). A target that is handed the cycle error does not
  wait for its dependencies (runner.go:155-160), so no dependency order exists for it; `C05_cycle_reported` governs.
-/
namespace Dawn.Link
open Dawn

/-- the evaluation order of a run of the runner's model -/
def _root_.Dawn.Runner.State.evalOrder (s : Runner.State) : List Runner.Label := s.order

/-- the runner's parameters describe the loaded project `t` -/
structure Adapts (t : Build.Tree) (P : Runner.Params) : Prop where
  known : ∀ l d, t.defs l = some d → P.known l = true
  deps  : ∀ l d, t.defs l = some d → P.deps l = Build.depsOf t l d

/-- the canonical adapter: what `Project.LoadTarget` and `Target.dependencies()` answer for a loaded project -/
def paramsOf (t : Build.Tree) (bodyOk : Runner.Label → Bool) (cap : Nat) (root : Runner.Label) : Runner.Params where
  deps := fun l => match t.defs l with | some d => Build.depsOf t l d | none => []
  known := fun l => (t.defs l).isSome
  bodyOk := bodyOk
  cap := cap
  root := root

theorem adapts_paramsOf (t : Build.Tree) (bodyOk : Runner.Label → Bool) (cap : Nat) (root : Runner.Label) :
    Adapts t (paramsOf t bodyOk cap root) where
  known := by intro l d h; simp [paramsOf, h]
  deps := by intro l d h; simp [paramsOf, h]

theorem sorted_of_depsFirst {t : Build.Tree} {P : Runner.Params} (ha : Adapts t P) {c : Runner.Label → Bool} :
    ∀ (ord seen : List Runner.Label), (∀ x ∈ ord, c x = false) → Runner.DepsFirst P c seen ord →
      Build.Sorted t seen ord := by
  intro ord
  induction ord with
  | nil => intro _ _ _; trivial
  | cons x rest ih =>
    intro seen hc h
    refine ⟨?_, ih (seen ++ [x]) (fun y hy => hc y (List.mem_cons_of_mem _ hy)) h.2⟩
    intro d hd y hy
    rw [← ha.deps x d hd] at hy
    exact h.1 (ha.known x d hd) (hc x (by simp)) y hy

/-- C04 ⇒ `RunnerOrder`, every reachable state: in any state of any run in which no cyclic-dependency error has been
    handed out, the outcomes computed so far were computed in an order the engine's theorems accept. -/
theorem C04_runner_order_prefix {t : Build.Tree} {P : Runner.Params} (ha : Adapts t P) {s : Runner.State}
    (hr : Runner.Reachable P s) (hnc : ∀ l, s.cyc l = false) : Build.RunnerOrder t s.evalOrder :=
  ⟨hr.invO.nodup, sorted_of_depsFirst ha _ _ (fun x _ => hnc x) hr.invO.first⟩

/-- **C04 discharges the runner hypothesis.** When `Run` has returned from a build of an acyclic reachable graph, the
    evaluation order is a `Build.RunnerOrder`; it consists of exactly the targets the build started, and the requested
    target is among them (so `C01_never_stale` etc. apply with `ord := s.evalOrder`). -/
theorem C04_discharges_runner_order {t : Build.Tree} {P : Runner.Params} (ha : Adapts t P)
    (hac : ∀ x, Runner.ReachRT P P.root x → ¬ Runner.Path P x x)
    {s : Runner.State} (hr : Runner.Reachable P s) (e : Runner.Err) (hd : s.main = .done e) :
    Build.RunnerOrder t s.evalOrder ∧ (∀ l, l ∈ s.evalOrder ↔ s.pc l ≠ none) ∧ P.root ∈ s.evalOrder := by
  have hnc : ∀ l, s.cyc l = false := fun l => (Runner.C05_no_false_cycle hac hr l).1
  have hall := Runner.C05_run_waits_all hr e hd
  have hmem : ∀ l, l ∈ s.evalOrder ↔ s.pc l ≠ none := by
    intro l
    show l ∈ s.order ↔ _
    rw [hr.invO.mem l]
    constructor
    · rintro ⟨p, hp, _⟩; rw [hp]; simp
    · intro h
      cases hp : s.pc l with
      | none => exact absurd hp h
      | some p => have := hall l p hp; subst this; exact ⟨_, rfl, rfl⟩
  refine ⟨C04_runner_order_prefix ha hr hnc, hmem, (hmem _).mpr ?_⟩
  exact hr.inv.mainW (by rw [hd]; simp)

/-- the same for a build that did hand out no cycle error although the graph may be cyclic elsewhere -/
theorem C04_discharges_runner_order_of_no_cycle_error {t : Build.Tree} {P : Runner.Params} (ha : Adapts t P)
    {s : Runner.State} (hr : Runner.Reachable P s) (hnc : ∀ l, s.cyc l = false) (e : Runner.Err)
    (_hd : s.main = .done e) : Build.RunnerOrder t s.evalOrder :=
  C04_runner_order_prefix ha hr hnc

/-! ## non-vacuity: the Build area's example project run through the runner's model -/

/-- the runner's parameters for the engine's example tree (`Build.exTree`), limit one, requested target 3 -/
def exParams : Runner.Params := paramsOf Build.exTree (fun _ => true) 1 3

example : Adapts Build.exTree exParams := adapts_paramsOf _ _ _ _

/-- a complete schedule of that build -/
def exSched : List Runner.Tid :=
  [.main, .tgt 3, .tgt 3, .tgt 3, .tgt 3, .tgt 3, .tgt 3, .tgt 3, .tgt 3, .tgt 2, .tgt 2, .tgt 2, .tgt 2, .tgt 2, .tgt 2, .tgt 2, .tgt 2, .tgt 1, .tgt 1, .tgt 1, .tgt 1, .tgt 1, .tgt 1, .tgt 1, .tgt 1, .tgt 1, .tgt 1, .tgt 2, .tgt 2, .tgt 1, .tgt 2, .tgt 2, .tgt 2, .tgt 3, .tgt 3, .tgt 2, .tgt 3, .tgt 3, .tgt 3, .main, .tgt 3, .tgt 3, .tgt 2, .tgt 1, .main]

/-- the runner's model builds the example project in the order `[1, 2, 3]` — the very list the engine's example
    (`Build.exOrder : RunnerOrder exTree [1, 2, 3]`) feeds to `runBuild` -/
example : (Runner.runSched (Runner.step exParams) (Runner.init exParams) exSched).map
    (fun s => (s.evalOrder, s.result)) = some ([1, 2, 3], some .none) := by decide +kernel

/-- the example graph is acyclic (edges go to smaller labels), so `C04_discharges_runner_order` applies to it -/
example : ∀ x, Runner.ReachRT exParams exParams.root x → ¬ Runner.Path exParams x x := by
  have edge_lt : ∀ a b, b ∈ Runner.edges exParams a → b < a := by
    intro a b h
    by_cases ha : a < 4
    · exact (by decide : ∀ a < 4, ∀ b ∈ Runner.edges exParams a, b < a) a ha b h
    · obtain ⟨n, rfl⟩ : ∃ n, a = n + 4 := ⟨a - 4, (Nat.sub_add_cancel (Nat.le_of_not_lt ha)).symm⟩
      cases h
  exact fun x _ => Runner.no_cycle_of_edges (r := fun a b => b < a) (fun h1 h2 => Nat.lt_trans h2 h1)
    Nat.lt_irrefl edge_lt x

end Dawn.Link
