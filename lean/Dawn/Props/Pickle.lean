import Dawn.Proofs.PickleCanon
import Dawn.Proofs.PickleEnv
import Dawn.Proofs.PickleBatch
/-!
# C07 — the pickle codec round-trips every value exactly;  C15 — decoding arbitrary bytes never crashes

The property theorems, the predicates their statements need, and test vectors. `encode` / `decode` are the models of `(*Encoder).Encode` / `(*Decoder).Decode`
(`Dawn/Model/Pickle.lean`), tied to `pickle/*.go` by `Dawn/Ties/Pickle.lean` (opcode table, batch size, width
thresholds, the `failure` type, normalised bodies of every modelled function) and by the correspondence streams
`enc` (bytes) and `dec*` (outcome and decoded graph) of `checks/C07.py`, `checks/C15.py`.

A Go value is a `Graph`: a heap of tuples, lists, dicts, sets and host objects plus a root value. The encoder model
accepts a graph only in *canonical* numbering (addresses in the order in which the decoder allocates; the harness
renumbers Go values that way), which is what makes the round trip an equality of graphs rather than an isomorphism.
-/
namespace Dawn.Pickle

/-! ## C07 -/

/-- the host unpickler rebuilds every host object of the graph (the counterpart of "values handled by a host pickler") -/
def HostAccepts (cfg : DecCfg) (g : Heap) : Prop :=
  ∀ (a : Nat) m n args, g[a]? = some (.host m n args) → ∃ fh, cfg.host = some fh ∧ ∀ h b ys, fh h b m n ys = .construct

/-- C07, byte layer: for every opcode, with every payload that fits its field (`Op.wf`: 1-, 2-, 4-, 8-byte integers,
1- and 4-byte lengths, newline-free INT text), reading back what was written yields the same op and leaves the rest. -/
theorem C07_bytes (op : Op) (rest : Bytes) (hw : op.wf) : parseOp (ser op ++ rest) = .op op rest :=
  parseOp_ser op rest hw

/-- C07, integers of every magnitude: the decimal text written for INT reads back as the same integer -/
theorem C07_int_text (i : Int) : parseDecimal (intText i) = some i := parseDecimal_intText i

/-- C07: decoding the encoding of any canonical graph yields exactly that graph — same types, structure, contents,
order and sharing — for graphs of any size (no bound on container sizes, nesting, number of batches), including
cyclic and shared containers and host objects.
Hypotheses, each of which every real Starlark value satisfies (and the driver re-checks on every generated graph):
`keysOK` (dict/set keys hashable and pairwise different by Starlark equality within the comparison depth),
`sizesOK` (strings shorter than 2^32 bytes, fewer than 2^32 objects: the format's 4-byte fields). -/
theorem C07_roundtrip (cfgD : DecCfg) (pickler : Bool) (g : Graph) (bs : Bytes)
    (hb : cfgD.oldBinint2 = false) (hp : cfgD.parseInt = parseDecimal) (hh : HostAccepts cfgD g.heap)
    (hk : g.heap.keysOK = true) (hs : g.sizesOK = true)
    (h : encode { pickler := pickler } g = some bs) : decode cfgD bs = .ok g.heap g.root := by
  simp only [Graph.sizesOK, Bool.and_eq_true, decide_eq_true_eq, List.all_eq_true] at hs
  exact decode_of_stream (roundtrip_stream _ rfl ⟨g.heap, [g.root]⟩
    ⟨⟨hb, fun i => hp ▸ parseDecimal_intText i⟩, hh, hk, hs.2, hs.1.1⟩ (by simpa using hs.1.2) bs
    (encode_eq_stream _ g ▸ h))

/-- C07 for a stream: several values written by ONE Encoder (`encodeStream`: memo and id counter carried from call to
call, as `Encoder.memo` / `Encoder.next` are) and read back by ONE Decoder with the same number of `Decode` calls
(`decodeStream`: memo, stack and heap carried over) come back as the values written, including the sharing ACROSS the
values — a container of an earlier value that occurs again in a later one is the same object. -/
theorem C07_roundtrip_stream (cfgD : DecCfg) (pickler : Bool) (g : MGraph) (bs : Bytes)
    (hb : cfgD.oldBinint2 = false) (hp : cfgD.parseInt = parseDecimal) (hh : HostAccepts cfgD g.heap)
    (hk : g.heap.keysOK = true) (hl : g.heap.length < 4294967296) (ho : g.heap.all Obj.sizeOK = true)
    (hr : g.roots.all Val.sizeOK = true)
    (h : encodeStream { pickler := pickler } g = some bs) :
    decodeStream cfgD g.roots.length {} bs [] = .ok g.roots g.heap := by
  simp only [List.all_eq_true] at ho hr
  exact roundtrip_stream _ rfl g ⟨⟨hb, fun i => hp ▸ parseDecimal_intText i⟩, hh, hk, ho, hl⟩ hr bs h

/-- non-vacuity: `l = [1, l]` written, then `"x"`, then `l` again: the third value read back is the first one -/
example : encodeStream {} ⟨[.list [.atom (.int 1), .ref 0]], [.ref 0, .atom (.str [0x78]), .ref 0]⟩ =
    some [0x5d, 0x94, 0x28, 0x4b, 1, 0x68, 0, 0x65, 0x2e, 0x8c, 1, 0x78, 0x2e, 0x68, 0, 0x2e] := by decide +kernel
/-- and a Decoder that has NOT seen the first value cannot resolve the reference of the third (the contract is per pair) -/
example : decodeStream {} 1 {} [0x68, 0, 0x2e] [] = .err 0 .invalidId := by decide +kernel

/-- C07, consequence: two values that differ never decode to equal values -/
theorem C07_injective (cfgD : DecCfg) (p₁ p₂ : Bool) (g₁ g₂ : Graph) (b₁ b₂ : Bytes)
    (hb : cfgD.oldBinint2 = false) (hp : cfgD.parseInt = parseDecimal)
    (hh₁ : HostAccepts cfgD g₁.heap) (hk₁ : g₁.heap.keysOK = true) (hs₁ : g₁.sizesOK = true)
    (hh₂ : HostAccepts cfgD g₂.heap) (hk₂ : g₂.heap.keysOK = true) (hs₂ : g₂.sizesOK = true)
    (h₁ : encode { pickler := p₁ } g₁ = some b₁) (h₂ : encode { pickler := p₂ } g₂ = some b₂)
    (hd : decode cfgD b₁ = decode cfgD b₂) : g₁ = g₂ := by
  rw [C07_roundtrip cfgD p₁ g₁ b₁ hb hp hh₁ hk₁ hs₁ h₁, C07_roundtrip cfgD p₂ g₂ b₂ hb hp hh₂ hk₂ hs₂ h₂] at hd
  cases g₁; cases g₂
  simp only [Outcome.ok.injEq] at hd
  simp [hd.1, hd.2]

/-- A graph is canonical when the encoder-independent walk of `Dawn/Model/Pickle.lean` (`walkVal`: depth first, lists /
dicts / sets numbered when first met, tuples and host objects when complete, tuples re-walked at every occurrence)
terminates — with whatever fuel — having numbered exactly the whole heap. Termination excludes a host object or tuple
that reaches itself without passing through a list, dict or set (`hostAcyclic`); numbering the whole heap means every
object is reachable from the root. -/
def Graph.Canonical (g : Graph) : Prop :=
  ∃ fuel st, walkVal g.heap fuel ⟨[], 0⟩ g.root = some st ∧ st.next = g.heap.length

/-- C07_total, fuel: the executable test `Graph.canonical`, which walks with `heap.length + 1` fuel, decides
canonicity — a walk that terminates at all never nests deeper than the number of objects it numbers, plus one. -/
theorem C07_canonical_fuel (g : Graph) : g.Canonical ↔ g.canonical = true := by
  constructor
  · rintro ⟨fuel, st, hw, hn⟩
    rw [walkVal_init {} rfl, Option.map_eq_some_iff] at hw
    obtain ⟨⟨es, ops⟩, he, rfl⟩ := hw
    -- `hn` speaks of `es.walk.next`, which is `es.next`
    have hn : es.next = g.heap.length := hn
    have := (encVal_needs {} g.heap fuel _ _ _ _ he).2 (g.heap.length + 1) (.inr (hn ▸ Nat.lt_add_left _ (Nat.lt_succ_self _)))
    simp only [canonical_eq_encodes {} rfl, encodeOps, this, if_pos hn, Option.isSome_some]
  · intro h
    simp only [Graph.canonical] at h
    split at h
    · rename_i st hw
      exact ⟨_, st, hw, by simpa using h⟩
    · cases h

/-- C07_total: every canonical graph is encoded — `Encode` succeeds (with a host `Pickler` installed; with or without
the old batch re-encode), and the model's fixed fuel `heap.length + 1` is enough. -/
theorem C07_total (g : Graph) (rebatch : Bool) (hc : g.canonical = true) :
    ∃ bs, encode { rebatch := rebatch, pickler := true } g = some bs := by
  rw [canonical_eq_encodes { rebatch := rebatch, pickler := true } rfl, Option.isSome_iff_exists] at hc
  obtain ⟨ops, h⟩ := hc
  exact ⟨serAll ops, by rw [encode, h]; rfl⟩

/-- C07, both halves together: a canonical graph with Starlark-valid keys and sizes the format can hold is encoded, and
its encoding decodes to exactly that graph. -/
theorem C07_total_roundtrip (cfgD : DecCfg) (g : Graph)
    (hb : cfgD.oldBinint2 = false) (hp : cfgD.parseInt = parseDecimal) (hh : HostAccepts cfgD g.heap)
    (hc : g.canonical = true) (hk : g.heap.keysOK = true) (hs : g.sizesOK = true) :
    ∃ bs, encode { pickler := true } g = some bs ∧ decode cfgD bs = .ok g.heap g.root := by
  obtain ⟨bs, h⟩ := C07_total g false hc
  exact ⟨bs, h, C07_roundtrip cfgD true g bs hb hp hh hk hs h⟩

/-- the encoder model's fuel is not an input: success with some fuel is success, with the same state and ops, with any
larger fuel (so `encode`, which runs with `heap.length + 1`, agrees with every successful run that used no more). -/
theorem C07_fuel_monotone (cfg : EncCfg) (g : Graph) (fuel extra : Nat) (st : EncSt) (ops : List Op)
    (h : encVal cfg g.heap fuel ⟨[], 0⟩ g.root = some (st, ops)) :
    encVal cfg g.heap (fuel + extra) ⟨[], 0⟩ g.root = some (st, ops) ∧
    (fuel ≤ g.heap.length + 1 → st.next = g.heap.length → encodeOps cfg g = some (ops ++ [.stop])) := by
  refine ⟨encVal_fuel_mono cfg g.heap (Nat.le_add_right _ _) h, fun hle hall => ?_⟩
  simp only [encodeOps, encVal_fuel_mono cfg g.heap hle h, hall, if_true]

/-- C07_ser_injective (for the areas that build on this one): the serialisation of op lists is injective on
well-formed ops, so results about op lists lift to bytes. -/
theorem C07_ser_injective (ops₁ ops₂ : List Op) (h : serAll ops₁ = serAll ops₂) (hw : ∀ op ∈ ops₁ ++ ops₂, op.wf) :
    ops₁ = ops₂ :=
  serAll_injective ops₁ ops₂ (fun o ho => hw o (by simp [ho])) (fun o ho => hw o (by simp [ho])) h

/-- the value `("a", [i % 7 | i < n])`: a list nested inside a tuple -/
def nestedList (n : Nat) : Graph :=
  ⟨[.list ((List.range n).map fun i => .atom (.int (Int.ofNat (i % 7)))), .tuple [.atom (.str [0x61]), .ref 0]], .ref 1⟩

theorem nestedList_ok (n : Nat) :
    (nestedList n).canonical = true ∧ (nestedList n).heap.keysOK = true ∧ (nestedList n).sizesOK = true := by
  refine ⟨?_, ?_, ?_⟩
  · simp [Graph.canonical, nestedList, walkVal, walkSeq, walkSeq_atoms]
  · simp [Heap.keysOK, nestedList, Obj.keysOK]
  · simp [Graph.sizesOK, nestedList, Obj.sizeOK, Val.sizeOK, Atom.sizeOK]

theorem nestedList_noHost (cfg : DecCfg) (n : Nat) : HostAccepts cfg (nestedList n).heap := by
  intro a m nm args h
  have := List.mem_of_getElem? h
  simp [nestedList] at this

/-- D1 (regression witness): with the old BININT2 arm (`l | h<<16`) the encoding of 256 decodes to 65536, which is
also what the encoding of 65536 decodes to: two different values, one decoded value. -/
theorem C07_binint2_counterexample :
    encode {} ⟨[], .atom (.int 256)⟩ = some [0x4d, 0x00, 0x01, 0x2e] ∧
    decode { oldBinint2 := true } [0x4d, 0x00, 0x01, 0x2e] = .ok [] (.atom (.int 65536)) ∧
    (encode {} ⟨[], .atom (.int 65536)⟩).map (decode { oldBinint2 := true }) = some (.ok [] (.atom (.int 65536))) := by
  decide +kernel

/-- D2 (regression witness): with the old batch loop (container re-encoded before every batch after the first) the
value `("a", list of 1001 ints)` decodes to something else — and the repaired encoder round-trips it. -/
theorem C07_batch_counterexample :
    (encode { rebatch := true } (nestedList 1001)).map (decode {}) ≠ some (.ok (nestedList 1001).heap (nestedList 1001).root) ∧
    (encode {} (nestedList 1001)).map (decode {}) = some (.ok (nestedList 1001).heap (nestedList 1001).root) := by
  constructor
  · -- two batches: the tuple comes back as `(l, l)`
    have hn : nestedList 1001 = ⟨[.list (((List.range 1001).map fun i => Atom.int (Int.ofNat (i % 7))).map .atom),
        .tuple [.atom (.str [0x61]), .ref 0]], .ref 1⟩ := by rw [List.map_map]; rfl
    rw [hn, decode_rebatch ⟨rfl, parseDecimal_intText⟩ _ _ rfl (by simp [Atom.sizeOK]) (by simp [batchSize])
      (by simp [batchSize])]
    simp
  · obtain ⟨bs, he, hd⟩ := C07_total_roundtrip {} (nestedList 1001) rfl rfl (nestedList_noHost _ _)
      (nestedList_ok _).1 (nestedList_ok _).2.1 (nestedList_ok _).2.2
    rw [he, ← hd]; rfl

/-! non-vacuity of `C07_roundtrip`: its hypotheses hold for — a list containing itself and a tuple that contains it;
a dict shared by two tuples, with a NaN and a tuple among its keys; a 2500-element list (three batches) inside a
tuple; a host object whose argument list is shared with a second host object that also refers to the first. -/
def exSelf : Graph := ⟨[.list [.atom (.int 1), .ref 0, .ref 1], .tuple [.atom (.int 2), .ref 0]], .ref 0⟩
def exSharedDict : Graph :=
  ⟨[.dict [(.atom (.float 0x7ff8000000000001), .atom .none), (.ref 1, .atom (.int 70000)), (.atom (.str [0x6b]), .ref 0)],
    .tuple [.atom (.int 1), .atom (.bytes [0, 255])], .tuple [.ref 0], .tuple [.ref 0, .atom (.bool true)], .tuple [.ref 2, .ref 3]], .ref 4⟩
def exHost : Graph :=
  ⟨[.list [.atom (.int (-5))], .tuple [.ref 0], .host [0x6d] [0x41] (.ref 1), .tuple [.ref 0, .ref 2], .host [0x6d] [0x42] (.ref 3),
    .tuple [.ref 4, .ref 2]], .ref 5⟩
def allHost : DecCfg := { host := some fun _ _ _ _ _ => .construct }

example : (encode {} exSelf).isSome = true ∧ exSelf.heap.keysOK = true ∧ exSelf.sizesOK = true := by decide +kernel
example : (encode {} exSharedDict).isSome = true ∧ exSharedDict.heap.keysOK = true ∧ exSharedDict.sizesOK = true := by decide +kernel
example : (encode {} exHost).isSome = true ∧ exHost.heap.keysOK = true ∧ exHost.sizesOK = true ∧
    decode allHost ((encode {} exHost).getD []) = .ok exHost.heap exHost.root := by decide +kernel
example : HostAccepts allHost exHost.heap := fun _ _ _ _ _ => ⟨_, rfl, fun _ _ _ => rfl⟩
example : (encode {} (nestedList 2500)).isSome = true ∧ (nestedList 2500).heap.keysOK = true ∧ (nestedList 2500).sizesOK = true := by
  obtain ⟨bs, h⟩ := C07_total (nestedList 2500) false (nestedList_ok _).1
  exact ⟨by rw [show encode {} _ = _ from h]; rfl, (nestedList_ok _).2⟩
/-- `C07_fuel_monotone`'s hypothesis is met with less fuel than `encode` uses -/
example : (encVal {} exSelf.heap 3 ⟨[], 0⟩ exSelf.root).isSome = true ∧ (encVal {} exSelf.heap 1 ⟨[], 0⟩ exSelf.root).isSome = false := by decide +kernel
/-- `C07_total`'s hypothesis: the example graphs are canonical; renumbered, rooted elsewhere, with an unreachable object
or with a tuple that contains itself they are not -/
example : exSelf.canonical = true ∧ exSharedDict.canonical = true ∧ exHost.canonical = true ∧ (nestedList 5).canonical = true := by decide +kernel
example : (⟨[.tuple [.atom (.int 2), .ref 1], .list [.atom (.int 1), .ref 1, .ref 0]], .ref 1⟩ : Graph).canonical = false ∧
    (⟨exSelf.heap, .ref 1⟩ : Graph).canonical = false ∧
    (⟨exSelf.heap ++ [.list []], .ref 0⟩ : Graph).canonical = false ∧
    (⟨[.tuple [.ref 0]], .ref 0⟩ : Graph).canonical = false := by decide +kernel
/-- the example graphs really are different values with different encodings -/
example : encode {} exSelf ≠ encode {} ⟨exSelf.heap, .ref 1⟩ := by decide +kernel

/-! ## C15 -/

/-- the host unpickler, given a well-formed heap and its argument tuple, returns a value or an error, or panics with
a `runtime.Error` — never with a non-error value — and what it returns is well formed (only extends the heap, every
reference in range) -/
def HostSane (cfg : DecCfg) : Prop :=
  ∀ f, cfg.host = some f → ∀ (h : Heap) (a : Nat) m n xs, (∀ o ∈ h, o.closed h.length) → h[a]? = some (.tuple xs) →
    f h a m n xs ≠ .otherPanic ∧ ∀ h' v, f h a m n xs = .result h' v → hostResultOK h h' v = true

/-- `HostSane` in the words of the proof modules: on a closed heap every verdict of the host is `VerdictOK` -/
theorem hostSane_iff (cfg : DecCfg) : HostSane cfg ↔ ∀ f, cfg.host = some f → ∀ (h : Heap) (a : Nat) m n xs,
    HeapClosed h → h[a]? = some (.tuple xs) → VerdictOK h (f h a m n xs) := Iff.rfl

theorem Outcome.Safe.fine {cfg : DecCfg} {o : Outcome} (hs : o.Safe cfg) (hf : cfg.failureIsInterface = true)
    (hh : HostSane cfg) :
    (∃ h v, o = .ok h v ∧ v.closed h.length ∧ HeapClosed h) ∨ (∃ k, o = .err k) := by
  cases o with
  | ok h v => exact .inl ⟨h, v, rfl, hs⟩
  | err k => exact .inr ⟨k, rfl⟩
  | outOfFuel => exact hs.elim
  | nilNoErr =>
    rcases hs with ⟨f, h, a, m, n, xs, h1, hcl, hget, h2⟩ | hs
    · obtain ⟨s1, s2⟩ := hh f h1 h a m n xs hcl hget
      rcases h2 with h2 | ⟨h', v, h2, h3⟩
      · exact absurd h2 s1
      · rw [s2 h' v h2] at h3; cases h3
    · rw [hf] at hs; cases hs

/-- C15: for EVERY byte string, `Decode` returns either a value or an error: the loop terminates (each iteration
consumes at least one byte), every partial operation of the decoder is guarded by an explicit failure, and the only
run-time panics (from the host unpickler) are `runtime.Error`s, which `recover().(failure)` turns into errors because
`failure` is the interface type `error` (tie `failure_ok`). It never returns `(nil, nil)` and never hangs. -/
theorem C15_no_crash (cfg : DecCfg) (bs : Bytes) (hf : cfg.failureIsInterface = true) (hh : HostSane cfg) :
    (∃ h v, decode cfg bs = .ok h v) ∨ (∃ k, decode cfg bs = .err k) := by
  rcases (decode_safe cfg bs).fine hf hh with ⟨h, v, e, _⟩ | ⟨k, e⟩
  · exact .inl ⟨h, v, e⟩
  · exact .inr ⟨k, e⟩

/-- C15 for a Decoder that is used AGAIN: however many times `Decode` is called on one Decoder over any byte string —
after calls that failed (the Decoder keeps the stack as the failing op left it and goes on reading where it stopped;
`failState`, compared with the real Decoder call by call in the streams `decn.*`) as after calls that succeeded —
every call returns a well-formed value or an error; none returns `(nil, nil)`, none hangs. -/
theorem C15_reuse_no_crash (cfg : DecCfg) (n : Nat) (bs : Bytes) (hf : cfg.failureIsInterface = true) (hh : HostSane cfg) :
    ∀ o ∈ decodeCalls cfg n {} bs,
      (∃ h v, o = .ok h v ∧ v.closed h.length ∧ ∀ x ∈ h, x.closed h.length) ∨ (∃ k, o = .err k) :=
  fun o ho => (decodeCalls_safe cfg n {} bs Closed.init o ho).fine hf hh

/-- what the model (and the real Decoder) answers when called again: after `K 1 .` the value 1; TUPLE2 on the empty
stack fails; TUPLE1 fails; the fourth call reads the final STOP with nothing to return. After `] K 1 N TUPLE2 APPEND` — the
tuple popped, then no list under it — the stack is left EMPTY (`d.pop()` came before the failing test). -/
example : decodeCalls {} 4 {} [0x4b, 1, 0x2e, 0x86, 0x85, 0x2e] =
    [.ok [] (.atom (.int 1)), .err .underflow, .err .underflow, .err .underflow] := by decide +kernel
example : (decodeCall {} 9 {} [0x4b, 1, 0x4e, 0x86, 0x61, 0x2e]).2.1.stack = [] ∧
    decodeCalls {} 2 {} [0x4b, 1, 0x4e, 0x86, 0x61, 0x2e] = [.err .underflow, .err .underflow] := by decide +kernel

/-- C15, termination alone needs no hypothesis at all -/
theorem C15_terminates (cfg : DecCfg) (bs : Bytes) : decode cfg bs ≠ .outOfFuel := by
  intro h
  have := decode_safe cfg bs
  rwa [h] at this

/-- C15: a decoded value is well formed — every reference in it, and in every object reachable from it, points to an
allocated object (there is no nil slot: the model's values have none, the decoder pushes only allocated or atomic
values). The `mark` / `global` sentinels may occur in it (DESIGN.md §4: an observation, not a violation).
What the HOST unpickler builds is abstract here (`HostVerdict.construct` stands for "a fresh non-nil value"): that
dawn's `envUnpickler` returns only well-formed values (no typed-nil pointer, nothing whose `String`/`Type`/`Truth`/
`Hash`/`Len`/iteration panics) is the host's obligation; it is checked on the real code by the harness's
well-formedness walker in the streams `dec.env-*` (every single-byte substitution, every truncation and seeded
mutations of a genuine function-environment record, decoded with `envUnpickler`) and by the record-level stream. -/
theorem C15_value_wf (cfg : DecCfg) (bs : Bytes) (h : Heap) (v : Val) (hd : decode cfg bs = .ok h v) :
    v.closed h.length ∧ ∀ o ∈ h, o.closed h.length := by
  have := decode_safe cfg bs
  rwa [hd] at this

/-- dawn's own host unpickler is sane: `envUnpickler` (model `envHost`, compared with the real function on every case
of the streams `dec.env-*`) never panics with a non-error value — its unchecked type assertions and indexing are
`runtime.Error`s — and what it returns is well formed. -/
theorem C15_env_host_sane : HostSane envCfg := by
  refine (hostSane_iff _).mpr fun f hf h a m n xs hc hg => ?_
  cases hf
  exact envHost_ok h a m n xs hc hg

/-- C15_env_no_crash: decoding ANY byte string as a persisted function environment (`pickle.NewDecoder(r,
envUnpickler).Decode()`, as `(*function).load` and `functionEnv` do) returns a value or an error — never `(nil, nil)`,
never a hang; every panic inside `envUnpickler` is a `runtime.Error` that `Decode` recovers. So a corrupted record
surfaces as "loading prior function environment: …", never as a crash of the load. -/
theorem C15_env_no_crash (bs : Bytes) : (∃ h v, decodeEnv bs = .ok h v) ∨ (∃ k, decodeEnv bs = .err k) :=
  C15_no_crash envCfg bs rfl C15_env_host_sane

/-- and the decoded environment is well formed, including everything `envUnpickler` built -/
theorem C15_env_value_wf (bs : Bytes) (h : Heap) (v : Val) (hd : decodeEnv bs = .ok h v) :
    v.closed h.length ∧ ∀ o ∈ h, o.closed h.length := C15_value_wf envCfg bs h v hd

/-- non-vacuity: a genuine-shaped environment decodes to the dict `envUnpickler` builds; an association list that is
not made of pairs is a recovered run-time error; a foreign module is an error.
`("dawn","FunctionCode",((n, c, (("p", 1),), (), f), None, b"bc"))` -/
example : decodeEnv [0x8c, 4, 0x64, 0x61, 0x77, 0x6e, 0x8c, 12, 0x46, 0x75, 0x6e, 0x63, 0x74, 0x69, 0x6f, 0x6e, 0x43, 0x6f, 0x64, 0x65, 0x93,
    0x28, 0x4e, 0x4e, 0x8c, 1, 0x70, 0x4b, 1, 0x86, 0x85, 0x29, 0x4e, 0x74, 0x4e, 0x43, 2, 0x62, 0x63, 0x87, 0x81, 0x2e] =
    .ok [.tuple [sv [0x70], .atom (.int 1)], .tuple [.ref 0], .tuple [], .tuple [.atom .none, .atom .none, .ref 1, .ref 2, .atom .none],
         .tuple [.ref 3, .atom .none, .atom (.bytes [0x62, 0x63])], .dict [(sv [0x70], .atom (.int 1))], .dict [],
         .dict [(sv kNames, .atom .none), (sv kConstants, .atom .none), (sv kPredeclared, .ref 5), (sv kUniversal, .ref 6),
                (sv kFunctions, .atom .none), (sv kGlobals, .atom .none), (sv kCode, .atom (.bytes [0x62, 0x63]))]] (.ref 7) := by
  decide +kernel
example : decodeEnv [0x8c, 4, 0x64, 0x61, 0x77, 0x6e, 0x8c, 12, 0x46, 0x75, 0x6e, 0x63, 0x74, 0x69, 0x6f, 0x6e, 0x43, 0x6f, 0x64, 0x65, 0x93,
    0x28, 0x4e, 0x4e, 0x4e, 0x85, 0x29, 0x4e, 0x74, 0x4e, 0x4e, 0x87, 0x81, 0x2e] = .err .runtimeError := by decide +kernel
example : decodeEnv [0x8c, 1, 0x6d, 0x8c, 1, 0x4e, 0x93, 0x29, 0x81, 0x2e] = .err .hostError := by decide +kernel

/-- C15, the excluded point of `C15_no_crash`, decided rather than hidden: `(nil, nil)` comes out exactly when the
host unpickler panics with a non-error value, or — were `failure` a concrete type — on any run-time panic. -/
theorem C15_recover_counterexample :
    let bytes : Bytes := [0x8c, 1, 0x6d, 0x8c, 1, 0x4e, 0x93, 0x29, 0x81, 0x2e]       -- "m" "N" STACK_GLOBAL () NEWOBJ STOP
    decode { host := some fun _ _ _ _ _ => .otherPanic } bytes = .nilNoErr ∧
    decode { host := some fun _ _ _ _ _ => .runtimePanic } bytes = .err .runtimeError ∧
    decode { host := some fun _ _ _ _ _ => .runtimePanic, failureIsInterface := false } bytes = .nilNoErr ∧
    decode { host := some fun _ _ _ _ _ => .construct } bytes = .ok [.tuple [], .host [0x6d] [0x4e] (.ref 0)] (.ref 1) := by
  decide +kernel

/-! non-vacuity of `C15_no_crash`: its hypotheses hold for the default configuration and for a host that rejects or
hits a run-time error; both disjuncts occur. -/
example : HostSane {} := fun f h => by simp at h
example : HostSane { host := some fun _ _ _ n _ => if n = [0x21] then .error else if n = [0x3f] then .runtimePanic else .construct } := by
  refine (hostSane_iff _).mpr fun f h hp a m n xs _ _ => ?_
  cases h
  exact .ite (.error hp) (.ite (.rt hp) ⟨nofun, nofun⟩)
example : decode {} [0x5d, 0x94, 0x68, 0x00, 0x61, 0x2e] = .ok [.list [.ref 0]] (.ref 0) := by decide +kernel   -- l = []; l.append(l)
example : decode {} [0x5d, 0x61, 0x2e] = .err .underflow := by decide +kernel
example : decode {} [0x58, 0xff, 0xff, 0xff, 0xff, 0x61] = .err .eof := by decide +kernel   -- declared length beyond the input
example : decode {} [0x28, 0x2e] = .ok [] .mark := by decide +kernel                          -- the sentinel escapes as a value

/-- C15 for the opcodes of the pickle protocols OUTSIDE this codec's subset (explicit memo slots `BINPUT` `q` /
`LONG_BINPUT` `r`, text-mode ops, frames, object construction, …): a `Decode` call that meets such a byte where an
opcode is expected ends in the error "unimplemented opcode", in every decoder state, leaving the state as it was —
it never yields a value made of never-filled slots and never `(nil, nil)` (seeded change C15-r1 made `q`/`r` opcodes). -/
theorem C15_foreign_opcode (cfg : DecCfg) (fuel : Nat) (ds : DecSt) (b : UInt8) (rest : Bytes) (hb : armOf b = none) :
    decodeCall cfg (fuel + 1) ds (b :: rest) = (.err .badOpcode, ds, rest) := by
  simp [decodeCall, parseOp, hb]

/-- the opcodes in question are outside the subset: BINPUT, LONG_BINPUT, PUT, GET, POP, DUP, PROTO, FRAME, REDUCE, GLOBAL -/
example : [0x71, 0x72, 0x70, 0x67, 0x30, 0x32, 0x80, 0x95, 0x52, 0x63].all (fun b => (armOf b).isNone) = true := by decide +kernel

end Dawn.Pickle
