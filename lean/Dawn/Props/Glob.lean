import Dawn.Proofs.Glob
/-!
# C17 — glob sets match exactly the union of their patterns

The property theorems, and at the end concrete instances. `compileGlobs` is the model of `util.CompileGlobs` (tied to the source by
`Dawn/Ties/Glob.lean` and by the correspondence streams `glob.tree`, `glob.text`, `glob.match`);
`Matches` is `regexp.MatchString` on the emitted expression; `globMatch` is the documented meaning of a
pattern, written independently of regular expressions.
-/
namespace Dawn.Glob

/-- C17 for every list, empty or not: the only thing an empty set accepts is the empty path. -/
theorem C17_set_general (tss : List (List Tok)) (p : List Char) :
    matchString (compileSet tss) p = true ↔ (tss = [] ∧ p = []) ∨ ∃ ts ∈ tss, globMatch ts p := by
  rw [matchString_iff, compileSet, Matches_anchored]
  by_cases h : tss = []
  · simp [h, M]
  · simp [h, M_union]

/-- C17, any number (≥ 1) of patterns: the set accepts a path iff some pattern matches the whole path. -/
theorem C17_union (gs : List (List Char)) (tss : List (List Tok)) (r : RE) (p : List Char)
    (hne : gs ≠ []) (hl : lexAll gs = .ok tss) (hc : compileGlobs gs = .ok r) :
    matchString r p = true ↔ ∃ ts ∈ tss, globMatch ts p := by
  simp only [compileGlobs, hl, Except.map] at hc
  cases hc
  have : tss ≠ [] := fun h => hne (lexAll_eq_nil (h ▸ hl))
  simp [C17_set_general, this]

/-- C17, one pattern: the compiled set of a single pattern accepts exactly the paths the pattern matches whole. -/
theorem C17_one (g : List Char) (ts : List Tok) (r : RE) (p : List Char)
    (hl : lex g = .ok ts) (hc : compileGlobs [g] = .ok r) :
    matchString r p = true ↔ globMatch ts p := by
  simpa using C17_union [g] [ts] r p (by simp) (by simp [lexAll, hl, Except.map]) hc

/-- `glob(include, exclude)` selects exactly the files matched whole by some include pattern and by no exclude
pattern — for every pair of lists, including empty ones, because a file's relative path is never empty. -/
theorem C17_select (inc exc : List (List Tok)) (files : List (List Char)) (hne : ∀ f ∈ files, f ≠ [])
    (p : List Char) :
    p ∈ globSelect (compileSet inc) (compileSet exc) files ↔
      p ∈ files ∧ (∃ ts ∈ inc, globMatch ts p) ∧ ¬ ∃ ts ∈ exc, globMatch ts p := by
  -- a file's path is not empty, so the empty-set case of `C17_set_general` does not arise
  have key (hf : p ∈ files) (tss : List (List Tok)) :
      ((tss = [] ∧ p = []) ∨ ∃ ts ∈ tss, globMatch ts p) ↔ ∃ ts ∈ tss, globMatch ts p := by simp [hne p hf]
  simp only [globSelect, List.mem_filter, Bool.and_eq_true, Bool.not_eq_true', ← Bool.not_eq_true,
    C17_set_general]
  exact and_congr_right fun hf => by rw [key hf, key hf]

/-- Ignore lists (`Project.loadPackage`): a package directory loads iff no pattern of the (non-empty) ignore
list matches the path of the directory or of one of its ancestors, the project root (`""`) included. -/
theorem C17_ignore (tss : List (List Tok)) (hne : tss ≠ []) (dirs : List (List Char)) :
    packageLoaded (some (compileSet tss)) dirs = true ↔
      ∀ pre ∈ prefixes dirs, ¬ ∃ ts ∈ tss, globMatch ts (joinPath pre) := by
  simp only [packageLoaded, List.all_eq_true, Bool.not_eq_true', ← Bool.not_eq_true, C17_set_general, hne,
    false_and, false_or]

/-- The excluded point of `C17_union`, decided rather than hidden: an empty set compiles to `^(?:)$`,
which accepts the empty path and nothing else (no caller can present the empty path; see DESIGN.md §4). -/
theorem C17_empty_set (p : List Char) : matchString (compileSet []) p = true ↔ p = [] := by
  simp [C17_set_general]

/-- the executable specification used by the driver is the specification -/
theorem C17_spec_exec (ts : List Tok) (p : List Char) : globMatchB ts p = true ↔ globMatch ts p :=
  globMatchB_iff ts p

/-- every character other than `\`, `*`, `?` is a literal: a pattern without metacharacters matches exactly itself -/
theorem C17_literal (g : List Char) (h : ∀ c ∈ g, c ≠ '\\' ∧ c ≠ '*' ∧ c ≠ '?') :
    lex g = .ok (g.map Tok.ch) ∧ ∀ p, globMatch (g.map Tok.ch) p ↔ p = g := by
  induction g with
  | nil => exact ⟨rfl, fun p => by simp [globMatch]⟩
  | cons c g ih =>
    obtain ⟨ih1, ih2⟩ := ih fun d hd => h d (List.mem_cons_of_mem _ hd)
    refine ⟨by rw [lex_plain (h c List.mem_cons_self), ih1]; rfl, fun p => ?_⟩
    simp only [List.map, globMatch, ih2]
    constructor
    · rintro ⟨s₂, rfl, rfl⟩; rfl
    · rintro rfl; exact ⟨g, rfl, rfl⟩

/-- an escaped metacharacter is that character, literally -/
theorem C17_escaped (c : Char) (hc : c ∈ escapable) (rest : List Char) :
    lex ('\\' :: c :: rest) = (lex rest).map (Tok.ch c :: ·) := by
  simp [lex, hc]

/-- `CompileGlobs` rejects exactly: a trailing backslash, or a backslash before a non-metacharacter -/
theorem C17_escape_rejected (c : Char) (hc : c ∉ escapable) (rest : List Char) :
    lex ['\\'] = .error .trailingEscape ∧ lex ('\\' :: c :: rest) = .error .badEscape := by
  simp [lex, hc]

/-- D6 (regression witness): in the shape the code emitted before the repair, `^(*.go)|(*.md)$`, alternation
binds loosest, and the set accepts `a.go/x` although neither pattern does. -/
theorem C17_anchor_counterexample :
    let g1 := [Tok.star, .ch '.', .ch 'g', .ch 'o']
    let g2 := [Tok.star, .ch '.', .ch 'm', .ch 'd']
    let old := RE.alt (.seq .bol (.cap (compileToks g1))) (.seq (.cap (compileToks g2)) .eol)
    Matches old "a.go/x".toList ∧ ¬ (∃ ts ∈ [g1, g2], globMatch ts "a.go/x".toList) := by
  intro g1 g2 old
  constructor
  · rw [← matchString_iff]; decide
  · simp only [List.mem_cons, List.not_mem_nil, or_false, exists_eq_or_imp, exists_eq_left, ← globMatchB_iff]
    decide

/-! non-vacuity: the hypotheses of `C17_union` are met by concrete, non-trivial sets; then one instance each of
`C17_select` and `C17_ignore` -/
example : lexAll ["*.go".toList, "src/**/?.md".toList, "a\\*b[".toList] =
    .ok [[.star, .ch '.', .ch 'g', .ch 'o'],
         [.ch 's', .ch 'r', .ch 'c', .ch '/', .dstar, .ch '/', .q, .ch '.', .ch 'm', .ch 'd'],
         [.ch 'a', .ch '*', .ch 'b', .ch '[']] := by decide
example : ∃ r, compileGlobs ["*.go".toList, "*.md".toList] = .ok r ∧
    matchString r "x/a.md".toList = false ∧ matchString r "a.md".toList = true := ⟨_, rfl, by decide, by decide⟩

example : globSelect (compileSet [[.dstar]]) (compileSet [[.ch 'v'], [.star, .ch '.', .ch 'o']])
    ["v/x".toList, "a.o".toList, "d/a.o".toList, "v".toList] = ["v/x".toList, "d/a.o".toList] := by decide
example : packageLoaded (some (compileSet [[.ch 'v']])) ["v".toList, "x".toList] = false ∧
    packageLoaded (some (compileSet [[.ch 'v']])) ["w".toList, "v".toList] = true := by decide

end Dawn.Glob
