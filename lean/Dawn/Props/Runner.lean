import Dawn.Proofs.RunnerMisc
import Dawn.Proofs.RunnerProgress
import Dawn.Proofs.RunnerOrder
import Dawn.Proofs.RunnerStatusWait
/-!
# C04, C05, C09 — the parallel target runner (`runner/runner.go`)

Property theorems, with the witnesses and examples they are instantiated on. The model is `Dawn/Model/Runner.lean`: an interleaving transition system over all
dependency graphs (`deps`, arbitrary: diamonds, shared subgraphs, self-loops, overlapping cycles), unknown
(`known`) and failing (`bodyOk`) targets, every parallelism limit `cap`, and every schedule — a theorem about
all `Reachable P s` is a theorem about all interleavings. It is tied to the source by `Dawn/Ties/Runner.lean`
(synchronisation skeletons and order facts regenerated from the working tree) and by trace refinement: every
execution of the real goroutines recorded under the controlled scheduler is replayed step by step through
`step` by `drv_runner` (streams `runner.rand`, `runner.pct`, `runner.model`, `runner.dfs`), and the final
states of free-running builds are checked against the conclusions below (`runner.stress.*`).
-/
namespace Dawn.Runner

/-- a one-target graph used by the `example`s that need parameters before the theorems -/
def diamondLike : Params where
  deps := fun _ => []
  known := fun _ => true
  bodyOk := fun _ => true
  cap := 1
  root := 0

/-! ## C04 — each target runs at most once, after its dependencies -/

/-- C04: `LoadTarget` and `Evaluate` are called at most once per label, however many dependents ask. -/
theorem C04_at_most_once {P : Params} {s : State} (hr : Reachable P s) (l : Label) :
    s.loads l ≤ 1 ∧ s.evals l ≤ 1 := by
  have inv := hr.inv
  refine ⟨?_, inv.evals l⟩
  rw [inv.loads l]
  unfold expLoads
  cases s.pc l with
  | none => simp
  | some p => simp only; split <;> omega

/-- C04: a target that continues past its dependency request (`EvaluateTargets` returned without the cycle
    error: program counters `enter2 (some hs)`, `evalRest (some hs)`) finds every requested dependency finished,
    and the outcome it was handed for each is that dependency's recorded outcome. -/
theorem C04_deps_first {P : Params} {s : State} (hr : Reachable P s) (l : Label) (hs : List Err)
    (hp : s.pc l = some (.enter2 (some hs)) ∨ s.pc l = some (.evalRest (some hs))) :
    (∀ d ∈ P.deps l, (s.status d).final = true) ∧ hs = (P.deps l).map s.err := by
  rcases hp with hp | hp <;> exact ⟨(hr.inv2 l _ hp).2, (hr.inv2 l _ hp).1⟩

/-- C04: while a target is still collecting its dependencies' results, the part collected so far is already
    the recorded outcome of finished dependencies (a dependent never overtakes a dependency). -/
theorem C04_deps_first_during_wait {P : Params} {s : State} (hr : Reachable P s) (l : Label)
    (todo : List Label) (hs : List Err) (hp : s.pc l = some (.waitDeps todo hs)) :
    ∃ pre, P.deps l = pre ++ todo ∧ hs = pre.map s.err ∧ ∀ d ∈ pre, (s.status d).final = true := by
  obtain ⟨pre, h1, h2, h3, _⟩ := hr.inv2 l _ hp
  exact ⟨pre, h1, h2, h3⟩

/-- C04 "actual outcome": a finished target's status and error never change again, so what a dependent was
    handed remains the dependency's outcome for the rest of the build. -/
theorem C04_outcome_stable {P : Params} {s s' : State} {t : Tid} (hr : Reachable P s)
    (h : step P s t = some s') (d : Label) (hf : (s.status d).final = true) :
    s'.status d = s.status d ∧ s'.err d = s.err d :=
  (step_stable hr.inv h d).1 hf

/-- C04: the outcome recorded for a finished target is the one its graph position dictates: the loader's error
    for an unknown target; failure for a target that was handed the cycle error (C05 governs, DESIGN.md §4);
    otherwise all its dependencies have finished and it failed iff one of them failed or its own body did. -/
theorem C04_outcome {P : Params} {s : State} (hr : Reachable P s) (l : Label)
    (hf : (s.status l).final = true) : OutcomeSpec P s l (s.status l) (s.err l) :=
  hr.outcome l hf

/-- C04 as an order: the labels in the order in which their outcome was computed (`State.order`: the failed load of
    an unknown target, the rest of `Evaluate` of a known one) contain no label twice, and every known target that was
    not handed the cycle error comes after all of its dependencies. (`Dawn/Props/LinkRunnerBuild.lean` turns this into
    the hypothesis `RunnerOrder` of the incremental engine's theorems.) -/
theorem C04_evaluation_order {P : Params} {s : State} (hr : Reachable P s) :
    s.order.Nodup ∧ DepsFirst P s.cyc [] s.order ∧
      ∀ l, l ∈ s.order ↔ ∃ p, s.pc l = some p ∧ p.afterRest = true :=
  ⟨hr.invO.nodup, hr.invO.first, hr.invO.mem⟩

/-- C04: the build's result is the requested target's result (and that target has finished). -/
theorem C04_result {P : Params} {s : State} (hr : Reachable P s) (e : Err) (hd : s.main = .done e) :
    e = s.err P.root ∧ (s.status P.root).final = true :=
  hr.inv.mainD e (Or.inr hd)

/-! ## C09 — the parallelism limit is respected and slots are conserved -/

/-- C09: free slots plus slot holders is the limit, in every reachable state: slots are neither leaked nor
    released more often than acquired. -/
theorem C09_conserved {P : Params} {s : State} (hr : Reachable P s) :
    s.capacity + (holders s).length = P.cap :=
  hr.inv.slots

/-- C09: never more targets executing (being loaded or running their bodies) than the limit; the executing
    targets are exactly the slot holders, so a target waiting for dependencies holds no slot. -/
theorem C09_limit {P : Params} {s : State} (hr : Reachable P s) :
    (executingSet s).length ≤ P.cap ∧ executingSet s = holders s ∧
      ∀ l p, s.pc l = some p → p.executing = false → s.holds l = false := by
  have inv := hr.inv
  refine ⟨?_, executing_eq_holders inv, ?_⟩
  · rw [executing_eq_holders inv]; have := inv.slots; omega
  · intro l p hp hx; rw [inv.holds_of hp, hx]

/-- C09: when `Run` has returned every slot has been given back. -/
theorem C09_all_returned {P : Params} {s : State} (hr : Reachable P s) (e : Err) (hd : s.main = .done e) :
    s.capacity = P.cap := by
  have inv := hr.inv
  have h0 : holders s = [] := List.filter_eq_nil_iff.mpr fun l hl => by
    obtain ⟨p, hp⟩ := Option.ne_none_iff_exists'.mp ((inv.reg l).mp hl)
    rw [inv.holds_of hp, run_waits_all hr e hd l p hp]; nofun
  have := inv.slots
  rw [h0] at this; exact this

/-! ## C05 — builds terminate: cycles are reported, never deadlock -/

/-- C05 / C09 "a build completes even with a limit of one": for every limit ≥ 1, every reachable state in
    which `Run` has not returned has an enabled step — no deadlock, whatever the graph and the schedule. -/
theorem C05_deadlock_free {P : Params} (hcap : 1 ≤ P.cap) {s : State} (hr : Reachable P s)
    (hnd : s.isDone = false) : ∃ t s', step P s t = some s' :=
  exists_some_of_not_all_none fun h => Bool.false_ne_true (hnd.symm.trans (stuck_all_done hcap hr h).1)

/-- C09 "a build completes even with a limit of one": with a single slot no reachable unfinished state is stuck
    (the instance `cap = 1` of `C05_deadlock_free`; progress towards completion is `C05_progress`). -/
theorem C09_completes_with_limit_one {P : Params} (h1 : P.cap = 1) {s : State} (hr : Reachable P s)
    (hnd : s.isDone = false) : ∃ t s', step P s t = some s' :=
  C05_deadlock_free (by omega) hr hnd

/-- the hypothesis `1 ≤ cap` is needed: with no slot at all the first target can never enter the gate -/
example : ∃ s, Reachable { diamondLike with cap := 0 } s ∧ s.isDone = false ∧
    ∀ t, step { diamondLike with cap := 0 } s t = none := by
  refine ⟨_, Reachable.step .main .init rfl, rfl, ?_⟩
  intro t
  cases t with
  | main => rfl
  | tgt l =>
    by_cases h : l = 0
    · subst h; rfl
    · simp [step, startTarget, init, diamondLike, upd, h]

/-- C05: the only states without an enabled step are the finished ones: `Run` has returned and every target
    goroutine has ended. -/
theorem C05_quiescent {P : Params} (hcap : 1 ≤ P.cap) {s : State} (hr : Reachable P s)
    (hstuck : ∀ t, step P s t = none) : s.isDone = true ∧ ∀ l p, s.pc l = some p → p = .done :=
  stuck_all_done hcap hr hstuck

/-! ### the gate with `cond.Wait` / `cond.Signal` made explicit

`GState` / `gstep` (`Dawn/Model/Runner.lean`) refine the model: a thread that finds the gate full goes to sleep and can
move again only after an `exit` has signalled it (`Signal` wakes the longest waiter; no spurious wake-ups), then re-tests
the capacity. Every refined step is a step of the core model or leaves it unchanged, so C04, C09 and the cycle theorems
hold of `g.core` for every `GReachable P g`; termination needs its own proof, because a free slot no longer enables a
sleeper. -/

/-- refinement: the core of a reachable refined state is reachable in the core model -/
theorem signal_refines {P : Params} {g : GState} (h : GReachable P g) : Reachable P g.core := h.core

/-- C05 / C09 with `Signal` semantics: no reachable unfinished state is stuck, for every limit ≥ 1 — a sleeper is never
    left behind with a slot free, because `exit` signals on every release (invariant `InvG.wake`: while anybody sleeps,
    the free slots are at most the threads standing at the gate awake). -/
theorem C05_deadlock_free_signal {P : Params} (hcap : 1 ≤ P.cap) {g : GState} (hr : GReachable P g)
    (hnd : g.core.isDone = false) : ∃ t g', gstep P g t = some g' :=
  exists_some_of_not_all_none fun h => Bool.false_ne_true (hnd.symm.trans (g_stuck_all_done hcap hr h).1)

theorem C05_quiescent_signal {P : Params} (hcap : 1 ≤ P.cap) {g : GState} (hr : GReachable P g)
    (hstuck : ∀ t, gstep P g t = none) : g.core.isDone = true ∧ ∀ l p, g.core.pc l = some p → p = .done :=
  g_stuck_all_done hcap hr hstuck

/-- C09: nobody sleeps in `gate.enter` while a slot is free and nobody who could take it is on the way -/
theorem C09_no_lost_wakeup {P : Params} {g : GState} (hr : GReachable P g) (hq : g.gateQ ≠ []) :
    g.core.capacity ≤ (g.core.registry.filter (awake g)).length :=
  hr.invG.wake hq

/-- a root with four leaves, limit two -/
def fan4 : Params where
  deps := fun l => match l with | 0 => [1, 2, 3, 4] | _ => []
  known := fun _ => true
  bodyOk := fun _ => true
  cap := 2
  root := 0

/-- 1 and 2 take the two slots, 3 and 4 go to sleep, 1 and 2 release back to back, then everybody else runs alone -/
def fan4Sched : List Tid :=
  [.main] ++ List.replicate 14 (.tgt 0) ++ [.tgt 1, .tgt 2, .tgt 3, .tgt 4] ++ List.replicate 3 (.tgt 1) ++
  List.replicate 3 (.tgt 2) ++ List.replicate 12 (.tgt 3) ++ List.replicate 8 (.tgt 1) ++ List.replicate 8 (.tgt 2) ++
  List.replicate 3 (.tgt 0)

/-- Regression witness (seeded change "signal only when the first slot frees"): with `exit` signalling only on the
    transition 0 → 1, an ACYCLIC build with limit two reaches a state in which `Run` has not returned and no thread
    can move: target 4 sleeps in `gate.enter` with both slots free. `C05_deadlock_free_signal` fails for that gate. -/
theorem C05_signal_only_when_first_slot_frees_counterexample :
    ∃ g, GReachableV true fan4 g ∧ g.core.isDone = false ∧ g.asleep 4 = true ∧ g.core.capacity = 2 ∧
      (threads g.core).all (fun t => (gstepV true fan4 g t).isNone) = true :=
  exists_of_run (fun _ => greachableV_of_grunSched fan4Sched .init) (by decide +kernel)

/-- under the code's gate (`exit` always signals) the same schedule leaves target 4 awake and able to take a slot -/
example : ((grunSched false fan4 (ginit fan4) fan4Sched).map fun g =>
    (g.asleep 4, (gstepV false fan4 g (.tgt 4)).isSome)) = some (false, true) := by decide +kernel

/-- `0 → 1`, limit one -/
def chain2 : Params where
  deps := fun l => match l with | 0 => [1] | _ => []
  known := fun _ => true
  bodyOk := fun _ => true
  cap := 1
  root := 0

def chain2Sched : List Tid := [.main, .tgt 0, .tgt 0, .tgt 0, .tgt 0, .tgt 0, .tgt 0, .tgt 0, .tgt 0, .tgt 1, .tgt 1, .tgt 1, .tgt 1, .tgt 1, .tgt 1, .tgt 1, .tgt 1, .tgt 1, .tgt 1, .tgt 0, .tgt 0, .tgt 0, .tgt 1, .tgt 1, .tgt 0]

/-- Regression witness (seeded change: atomic capacity, `gate.exit` no longer takes the gate's mutex). With the
    capacity test and `cond.Wait` two steps (`ustep`), limit ONE and the chain `0 → 1`: target 0, coming back from its
    dependency wait, sees the gate full (1 still holds the slot); 1 releases and signals — nobody waits yet; 0 then
    waits, for ever, next to a free slot. `C09_no_lost_wakeup` and `C09_completes_with_limit_one` fail for that gate;
    they hold for the code because test-and-sleep is one critical section that `exit` has to enter too
    (`Ties/RunnerGate.lean`: `skel_enter_ok`, `skel_exit_ok`). -/
theorem C09_unlocked_exit_counterexample :
    ∃ u, UReachable chain2 u ∧ u.g.core.isDone = false ∧ u.g.asleep 0 = true ∧ u.g.core.capacity = 1 ∧
      (threads u.g.core).all (fun t => (ustep chain2 u t).isNone) = true :=
  exists_of_run (fun _ => ureachable_of_urunSched chain2Sched .init) (by decide +kernel)

/-! ### the status wait with `cond.Wait` / `cond.Broadcast` made explicit

`WState` / `wstep` refine the gate-level model once more: a dependent (or the caller of `Run`) that finds the target
running goes to sleep in `t.c.Wait()` and moves again only after that target's `run` has set the status and
`Broadcast`; every woken waiter re-tests. Every refined step is a `gstep` or leaves the gate-level state unchanged
(for every `WMode`), so C04, C09 and the cycle theorems hold of `w.g.core`. -/

/-- refinement: the gate-level state and the core of a reachable status-wait-level state are reachable -/
theorem status_wait_refines {mode : WMode} {P : Params} {w : WState} (h : WReachableV mode P w) :
    GReachable P w.g ∧ Reachable P w.g.core := ⟨h.g, h.core⟩

/-- C04 at the level of the condition variable: a thread sleeps in `wait()` only while the target it waits for is
    still running — no dependent is left asleep on a finished dependency (both exits of `run` broadcast). -/
theorem C04_no_lost_wakeup_status {P : Params} {w : WState} (hr : WReachable P w) (t : Tid)
    (hs : w.wsleep t = true) : ∃ d, sleepsOn P w.g.core t = some d ∧ w.g.core.status d = .running :=
  hr.invW t hs

/-- C04 `deps_first` holds of the refined model (through the refinement) -/
theorem C04_deps_first_broadcast {P : Params} {w : WState} (hr : WReachable P w) (l : Label) (hs : List Err)
    (hp : w.g.core.pc l = some (.enter2 (some hs)) ∨ w.g.core.pc l = some (.evalRest (some hs))) :
    (∀ d ∈ P.deps l, (w.g.core.status d).final = true) ∧ hs = (P.deps l).map w.g.core.err :=
  C04_deps_first hr.core l hs hp

/-- C05 with `Wait`/`Broadcast` (and `Wait`/`Signal` at the gate) explicit: no reachable unfinished state is stuck -/
theorem C05_deadlock_free_broadcast {P : Params} (hcap : 1 ≤ P.cap) {w : WState} (hr : WReachable P w)
    (hnd : w.g.core.isDone = false) : ∃ t w', wstep P w t = some w' :=
  exists_some_of_not_all_none fun h => Bool.false_ne_true (hnd.symm.trans (w_stuck_all_done hcap hr h).1)

theorem C05_quiescent_broadcast {P : Params} (hcap : 1 ≤ P.cap) {w : WState} (hr : WReachable P w)
    (hstuck : ∀ t, wstep P w t = none) :
    w.g.core.isDone = true ∧ ∀ l p, w.g.core.pc l = some p → p = .done :=
  w_stuck_all_done hcap hr hstuck

/-- `0 → 1`, target 1 unknown, limit one -/
def unknownDep : Params where
  deps := fun l => match l with | 0 => [1] | _ => []
  known := fun l => l != 1
  bodyOk := fun _ => true
  cap := 1
  root := 0

def unknownDepSched : List Tid := [.main, .main, .tgt 0, .tgt 0, .tgt 0, .tgt 0, .tgt 0, .tgt 0, .tgt 0, .tgt 0, .tgt 0, .tgt 1, .tgt 1, .tgt 1, .tgt 1, .tgt 1]

/-- Regression witness (seeded change: the `LoadTarget`-error exit of `run` unlocks without `Broadcast`): target 0 goes
    to sleep waiting for the unknown target 1, target 1 fails to load and stores its status without waking anybody;
    0 and the caller of `Run` sleep for ever although 1 has finished. `C04_no_lost_wakeup_status` and
    `C05_deadlock_free_broadcast` fail for that code. -/
theorem C04_exit_without_broadcast_counterexample :
    ∃ w, WReachableV .noBroadcastOnLoadFailure unknownDep w ∧ w.g.core.isDone = false ∧
      w.wsleep (.tgt 0) = true ∧ w.g.core.status 1 = .failed ∧
      (threads w.g.core).all (fun t => (wstepV .noBroadcastOnLoadFailure unknownDep w t).isNone) = true :=
  exists_of_run (fun _ => wreachableV_of_wrunSched unknownDepSched .init) (by decide +kernel)

/-- the diamond with room for everybody (limit four) -/
def diamond4 : Params where
  deps := fun l => match l with | 0 => [1, 2] | 1 => [3] | 2 => [3] | _ => []
  known := fun _ => true
  bodyOk := fun _ => true
  cap := 4
  root := 0

def diamondSignalSched : List Tid := [.main, .main, .tgt 0, .tgt 0, .tgt 0, .tgt 0, .tgt 0, .tgt 0, .tgt 0, .tgt 0, .tgt 0, .tgt 0, .tgt 0, .tgt 1, .tgt 1, .tgt 1, .tgt 1, .tgt 1, .tgt 1, .tgt 1, .tgt 1, .tgt 1, .tgt 2, .tgt 2, .tgt 2, .tgt 2, .tgt 2, .tgt 2, .tgt 2, .tgt 2, .tgt 2, .tgt 3, .tgt 3, .tgt 3, .tgt 3, .tgt 3, .tgt 3, .tgt 3, .tgt 3, .tgt 3, .tgt 3, .tgt 1, .tgt 1, .tgt 1, .tgt 1, .tgt 1, .tgt 0, .tgt 0, .tgt 1, .tgt 1, .tgt 3, .tgt 3]

/-- Regression witness (`Signal` instead of `Broadcast`): in the diamond both 1 and 2 sleep waiting for 3; when 3
    finishes only the longer sleeper is woken, 2 sleeps for ever on a finished target and the build never ends. -/
theorem C04_signal_instead_of_broadcast_counterexample :
    ∃ w, WReachableV .signal diamond4 w ∧ w.g.core.isDone = false ∧
      w.wsleep (.tgt 2) = true ∧ (w.g.core.status 3).final = true ∧
      (threads w.g.core).all (fun t => (wstepV .signal diamond4 w t).isNone) = true :=
  exists_of_run (fun _ => wreachableV_of_wrunSched diamondSignalSched .init) (by decide +kernel)

/-- under the code (`Broadcast` on both exits) the same two schedules leave nobody asleep on a finished target -/
example : ((wrunSched .broadcast unknownDep (winit unknownDep) unknownDepSched).map fun w =>
    (w.wsleep (.tgt 0), (wstep unknownDep w (.tgt 0)).isSome)) = some (false, true) := by decide +kernel
example : ((wrunSched .broadcast diamond4 (winit diamond4) (diamondSignalSched.take 45)).map fun w =>
    (w.wsleep (.tgt 1), w.wsleep (.tgt 2))) = some (false, false) := by decide +kernel

/-- C05 (D17 repaired): when `Run` returns, every started target has ended — the build is over. -/
theorem C05_run_waits_all {P : Params} {s : State} (hr : Reachable P s) (e : Err) (hd : s.main = .done e) :
    ∀ l p, s.pc l = some p → p = .done :=
  run_waits_all hr e hd

/-- C05: a waiting set is published only while its owner is between `waiting.Swap(&targets)` and the (deferred)
    `waiting.Swap(nil)`; in particular a target that has finished — also one that reported a cycle — has withdrawn it,
    so no later cycle walk can read a stale set (a leftover self-loop would be walked for ever). -/
theorem C05_unpublished_when_done {P : Params} {s : State} (hr : Reachable P s) (l : Label)
    (hf : (s.status l).final = true) : s.waiting l = none := by
  obtain ⟨p, hp, hpf⟩ := hr.inv.pc_of_final hf
  rw [hr.inv.waiting_of hp, PC.not_published_of_final hpf]
  rfl

/-- … and exactly the threads inside that window are published -/
theorem C05_published_iff {P : Params} {s : State} (hr : Reachable P s) (l : Label) :
    (s.waiting l).isSome = true ↔ ∃ p, s.pc l = some p ∧ p.published = true := by
  have inv := hr.inv
  cases hp : s.pc l with
  | none => have := inv.waiting l; rw [hp] at this; simp [this, expWaiting]
  | some p => rw [inv.waiting_of hp]; cases h : p.published <;> simp [h]

/-- C05: a cyclic-dependency error is only ever handed to a target that lies on a cycle. -/
theorem C05_cycle_error_on_cycle {P : Params} {s : State} (hr : Reachable P s) (l : Label)
    (hc : s.cyc l = true) : Path P l l ∧ ReachRT P P.root l := by
  obtain ⟨q, hq, _⟩ := hr.inv.cyc l hc
  exact ⟨hr.inv3.cyc l hc, hr.inv3.reach_of hq⟩

/-- C05: on a graph whose part reachable from the requested target is acyclic, no cyclic-dependency error is
    ever found or handed to anyone. -/
theorem C05_no_false_cycle {P : Params} (hac : ∀ x, ReachRT P P.root x → ¬ Path P x x)
    {s : State} (hr : Reachable P s) (l : Label) :
    s.cyc l = false ∧ ∀ p, s.pc l = some p → p.cycFound = false := by
  constructor
  · cases hc : s.cyc l with
    | false => rfl
    | true => exact absurd (C05_cycle_error_on_cycle hr l hc).1 (hac l (C05_cycle_error_on_cycle hr l hc).2)
  · intro p hp
    cases hf : p.cycFound with
    | false => rfl
    | true => exact absurd (hr.inv3.found l p hp hf) (hac l (hr.inv3.reach_of hp))

/-- C05: if the targets reachable from the requested one contain a cycle (a self-dependency included), a build
    that has finished has failed, and a cyclic-dependency error was reported to some target. -/
theorem C05_cycle_reported {P : Params} (x : Label) (hx : ReachRT P P.root x) (hcyc : Path P x x)
    {s : State} (hr : Reachable P s) (e : Err) (hd : s.main = .waitAll e ∨ s.main = .done e) :
    e ≠ .none ∧ ∃ l, s.cyc l = true := by
  obtain ⟨he, hroot⟩ := hr.inv.mainD e hd
  constructor
  · -- a successful root would make the whole reachable graph succeed, each target after its dependencies
    intro hn
    rw [hn] at he
    exact no_cycle_from hr.inv4 (fun a => (s.status a).final = true ∧ s.err a = .none)
      (fun _ h => ⟨h.1, (succeeded_of_final_none hr h.1 h.2).2.2.1⟩)
      (fun _ h _ d hd => (succeeded_of_final_none hr h.1 h.2).2.2.2 d hd) ⟨hroot, he.symm⟩ hx hcyc
  · -- without any cycle error the whole reachable graph has finished, each target after its dependencies
    apply Classical.byContradiction
    intro hno
    have hnc : ∀ l, s.cyc l = false := fun l => Bool.eq_false_iff.mpr fun h => hno ⟨l, h⟩
    exact no_cycle_from hr.inv4 (fun a => (s.status a).final = true) (fun a h => ⟨h, hnc a⟩)
      (fun a h hk d hd => (hr.inv4.order a h hk (hnc a) d hd).1) hroot hx hcyc

/-- C05, termination: on a finite graph (`nodes` contains the requested target and is closed under dependencies)
    every step other than a read of the cycle walk strictly decreases the measure `mu` (a bound on the number of such
    steps the threads still have to take). With `C05_deadlock_free` this is termination under weak fairness: a walk
    read can repeat only while two *other* targets are between publishing and un-publishing a cycle, and each of
    them is enabled (DESIGN.md §4); fairness itself is an assumption about the Go scheduler. -/
theorem C05_progress {P : Params} {nodes : List Label} (hroot : P.root ∈ nodes)
    (hclosed : ∀ l ∈ nodes, ∀ d ∈ P.deps l, d ∈ nodes)
    {s s' : State} {t : Tid} (hr : Reachable P s) (h : step P s t = some s') :
    (∃ l d rest, t = .tgt l ∧ s.pc l = some (.walk (d :: rest)) ∧ d ≠ l) ∨ mu P nodes s' < mu P nodes s :=
  progress hroot hclosed hr h

/-! ## non-vacuity: concrete graphs, schedules and reachable states -/

/-- a diamond `0 → 1, 2 → 3`, limit one -/
def diamond : Params where
  deps := fun l => match l with | 0 => [1, 2] | 1 => [3] | 2 => [3] | _ => []
  known := fun _ => true
  bodyOk := fun _ => true
  cap := 1
  root := 0

/-- `0 ⇄ 1`, limit one -/
def twoCycle : Params where
  deps := fun l => match l with | 0 => [1] | 1 => [0] | _ => []
  known := fun _ => true
  bodyOk := fun _ => true
  cap := 1
  root := 0

/-- a complete schedule of the diamond recorded from the real runner under the controlled scheduler -/
def diamondSched : List Tid :=
  [.main, .tgt 0, .tgt 0, .tgt 0, .tgt 0, .tgt 0, .tgt 0, .tgt 1, .tgt 1, .tgt 1, .tgt 1, .tgt 2, .tgt 1, .tgt 1,
   .tgt 1, .tgt 0, .tgt 0, .tgt 2, .tgt 2, .tgt 0, .tgt 2, .tgt 3, .tgt 3, .tgt 1, .tgt 2, .tgt 0, .tgt 0, .tgt 2,
   .tgt 2, .tgt 3, .tgt 3, .tgt 3, .tgt 2, .tgt 3, .tgt 3, .tgt 3, .tgt 3, .tgt 3, .tgt 2, .tgt 1, .tgt 1, .tgt 2,
   .tgt 3, .tgt 1, .tgt 3, .tgt 1, .tgt 1, .tgt 0, .tgt 1, .tgt 2, .tgt 1, .tgt 2, .tgt 2, .tgt 0, .tgt 2, .tgt 0,
   .tgt 0, .tgt 2, .tgt 0, .tgt 0, .main, .tgt 0, .tgt 0, .main]

/-- a complete schedule of `0 ⇄ 1` recorded from the real runner: target 1 finds the cycle -/
def twoCycleSched : List Tid :=
  [.main, .tgt 0, .tgt 0, .tgt 0, .tgt 0, .tgt 0, .tgt 0, .tgt 0, .tgt 1, .tgt 1, .tgt 0, .tgt 1, .tgt 1, .tgt 1,
   .tgt 1, .tgt 1, .tgt 1, .tgt 1, .tgt 1, .tgt 1, .tgt 1, .tgt 0, .tgt 0, .tgt 1, .tgt 1, .tgt 0, .tgt 0, .tgt 0,
   .main, .tgt 0, .tgt 0, .main]

def obs (s : State) : List Status × Option Err × Nat × List Bool × List Nat :=
  ((List.range 4).map s.status, s.result, s.capacity, (List.range 4).map s.cyc, (List.range 4).map s.evals)

/-- the diamond builds: all four targets evaluated once, success, the slot is back (hypotheses of
    `C04_result`, `C09_all_returned`, `C05_run_waits_all`, `C05_no_false_cycle` are satisfiable) -/
example : (runSched (step diamond) (init diamond) diamondSched).map obs =
    some ([.succeeded, .succeeded, .succeeded, .succeeded], some .none, 1, [false, false, false, false], [1, 1, 1, 1]) := by
  decide +kernel

example : ∃ s, Reachable diamond s ∧ s.main = .done .none :=
  exists_of_run (fun _ => reachable_of_runSched diamondSched .init) (by decide +kernel)

/-- the two-cycle build fails and reports the cycle (hypotheses of `C05_cycle_reported` are satisfiable) -/
example : (runSched (step twoCycle) (init twoCycle) twoCycleSched).map obs =
    some ([.failed, .failed, .idle, .idle], some .depFailed, 1, [false, true, false, false], [1, 1, 0, 0]) := by
  decide +kernel

example : ReachRT twoCycle twoCycle.root 0 ∧ Path twoCycle 0 0 :=
  ⟨Or.inl rfl, .cons (b := 1) (by decide) (.single (by decide))⟩

/-- the diamond is acyclic: hypothesis of `C05_no_false_cycle` -/
example : ∀ x, ReachRT diamond diamond.root x → ¬ Path diamond x x := by
  -- every edge of the diamond goes to a strictly larger label
  have edge_lt : ∀ a b, b ∈ edges diamond a → a < b := by
    intro a b h
    by_cases ha : a < 3
    · exact (by decide : ∀ a < 3, ∀ b ∈ edges diamond a, a < b) a ha b h
    · obtain ⟨n, rfl⟩ : ∃ n, a = n + 3 := ⟨a - 3, (Nat.sub_add_cancel (Nat.le_of_not_lt ha)).symm⟩
      cases h
  exact fun x _ => no_cycle_of_edges (r := fun a b => a < b) Nat.lt_trans Nat.lt_irrefl edge_lt x

/-- the diamond's node set is closed: hypotheses of `C05_progress` -/
example : diamond.root ∈ [0, 1, 2, 3] ∧ ∀ l ∈ [0, 1, 2, 3], ∀ d ∈ diamond.deps l, d ∈ [0, 1, 2, 3] := by decide

/-- the diamond's measure starts at 75 and is 0 at the end of the schedule -/
example : mu diamond [0, 1, 2, 3] (init diamond) = 75 ∧
    (runSched (step diamond) (init diamond) diamondSched).map (mu diamond [0, 1, 2, 3]) = some 0 := by decide +kernel

/-! ## regression witness for D17 (`Run` returned as soon as the requested target had finished) -/

/-- `0 ⇄ 1` under the code before the repair: target 0 finds the cycle, fails, `Run` returns — target 1 is
    still running. (Replayed on the implementation: `corpus/C05/D17-run-returns-early.json`.) -/
def d17Sched : List Tid :=
  [.main, .tgt 0, .tgt 0, .tgt 0, .tgt 0, .tgt 0, .tgt 1, .tgt 1, .tgt 1, .tgt 1, .tgt 1, .tgt 1,
   .tgt 0, .tgt 0, .tgt 0, .tgt 0, .tgt 0, .tgt 0, .tgt 0, .main]

theorem C05_run_returns_early_counterexample :
    ∃ s, ReachableOld twoCycle s ∧ s.isDone = true ∧ s.status 1 = .running :=
  exists_of_run (fun _ => reachableOld_of_runSched d17Sched .init) (by decide +kernel)

/-- the same schedule under the repaired `Run`: it does not return here (it is blocked in `running.Wait()`) -/
example : ((runSched (step twoCycle) (init twoCycle) d17Sched).map fun s => (s.isDone, s.live)) = some (false, 2) := by
  decide +kernel

end Dawn.Runner
