import Dawn.Proofs.LabelTip
/-!
# C12 — labels are canonical, stable identities confined to the project

Property theorems only. The functions named `…Go` are the models of `label.Parse`, `Clean`, `Join`, `New`,
`(*Label).RelativeTo`, `repoSourcePath`, `sourceLabel` as the Go text is written: every `s[i]` and `s[lo:hi]`
is an explicit operation whose out-of-range outcome is `Out.panic`, loops carry fuel (`Out.fuel`). They are
tied to the source by `Dawn/Ties/Label.lean` and by the correspondence streams `label.*`. `print` is
`(*Label).String`. Strings are byte lists (see `Dawn/Model/Label.lean` for why).
-/
namespace Dawn.Label

/-- C12 "parsing never crashes on any string": for every byte string `Parse` returns a label or an error —
no index or slice expression of `Parse`, `Clean` or `lazybuf` is ever out of range, and the loops of `Clean`
terminate within their fuel. The same holds for `Clean`, `Join`, `New` and `RelativeTo` on all arguments. -/
theorem C12_total (s : Bytes) :
    (parseGo s).returns = true ∧ (cleanGo s).returns = true ∧
    (∀ elems, (joinGo elems).returns = true) ∧
    (∀ k p g n, (newGo k p g n).returns = true) ∧
    (∀ l pkg, (relativeToGo l pkg).returns = true) :=
  ⟨returns_of_eq (parseGo_eq s), returns_of_eq (cleanGo_eq s), fun e => returns_of_eq (joinGo_eq e),
    fun k p g n => returns_of_eq (newGo_eq k p g n), fun l pkg => returns_of_eq (relativeToGo_eq l pkg)⟩

/-- C12 round trip: every label accepted by `Parse` that has a name or has no kind prints to a string that
parses back to the identical label. -/
theorem C12_roundtrip (s : Bytes) (l : Label) (h : parseGo s = .ok l) (hside : l.name ≠ [] ∨ l.kind = []) :
    parseGo (print l) = .ok l :=
  parseGo_ok.mpr (parse_print (parse_wf (parseGo_ok.mp h)) hside)

/-- C12 canonicity: two accepted labels (each with a name or without a kind) print equal exactly when they
are equal. -/
theorem C12_canonical (s₁ s₂ : Bytes) (l₁ l₂ : Label) (h₁ : parseGo s₁ = .ok l₁) (h₂ : parseGo s₂ = .ok l₂)
    (hs₁ : l₁.name ≠ [] ∨ l₁.kind = []) (hs₂ : l₂.name ≠ [] ∨ l₂.kind = []) :
    print l₁ = print l₂ ↔ l₁ = l₂ :=
  ⟨print_injective (parse_wf (parseGo_ok.mp h₁)) (parse_wf (parseGo_ok.mp h₂)) hs₁ hs₂, fun h => by rw [h]⟩

/-- C12 "this also holds after resolving the label against a package": whatever package (any byte string) an
accepted label is resolved against, the result round-trips, and resolved labels print canonically. -/
theorem C12_relative (s pkg : Bytes) (l l' : Label) (h : parseGo s = .ok l) (hr : relativeToGo l pkg = .ok l')
    (hside : l'.name ≠ [] ∨ l'.kind = []) :
    parseGo (print l') = .ok l' :=
  parseGo_ok.mpr (parse_print (relativeTo_wf (parse_wf (parseGo_ok.mp h)) hr).1 hside)

theorem C12_relative_canonical (s₁ s₂ p₁ p₂ : Bytes) (l₁ l₂ r₁ r₂ : Label)
    (h₁ : parseGo s₁ = .ok l₁) (h₂ : parseGo s₂ = .ok l₂)
    (hr₁ : relativeToGo l₁ p₁ = .ok r₁) (hr₂ : relativeToGo l₂ p₂ = .ok r₂)
    (hs₁ : r₁.name ≠ [] ∨ r₁.kind = []) (hs₂ : r₂.name ≠ [] ∨ r₂.kind = []) :
    print r₁ = print r₂ ↔ r₁ = r₂ :=
  ⟨print_injective (relativeTo_wf (parse_wf (parseGo_ok.mp h₁)) hr₁).1 (relativeTo_wf (parse_wf (parseGo_ok.mp h₂)) hr₂).1 hs₁ hs₂,
    fun h => by rw [h]⟩

/-- labels the system itself constructs with `New` (always with an empty project: `sourceLabel`, `arg`) are
identities of the same kind: they round-trip through their printed form. -/
theorem C12_new_roundtrip (k g n : Bytes) (l : Label) (h : newGo k [] g n = .ok l) (hside : n ≠ [] ∨ k = []) :
    parseGo (print l) = .ok l := by
  obtain ⟨hwf, hk, hn⟩ := new_wf rfl h
  exact parseGo_ok.mpr (parse_print hwf (by rw [hk, hn]; exact hside))

/-! ## source and generated-file paths -/

/-- C12 "source and generated-file paths always resolve to locations inside the project root": whatever
`repoSourcePath` returns has no `..` element, and joined below any absolute root (`filepath.Join(root, q)` is
`path.Clean(root + "/" + q)`) its elements extend the elements of the cleaned root: the location is lexically
under the root. `pathComps p` are the elements of `path.Clean(p)`. -/
theorem C12_confined (pkg sp q : Bytes) (h : repoSourcePathGo pkg sp = .ok q) :
    dotdot ∉ split slash q ∧
    ∀ root, pathIsAbs root = true → pathComps root <+: pathComps (root ++ slash :: q) := by
  rw [rsp_eq pkg sp (by rintro rfl; cases h)] at h
  split at h
  · exact accepted_confined h
  · split at h
    · exact accepted_confined h
    · cases h


/-- C12 "a path that would escape it is rejected": for a relative source path resolved from the package `//p2`,
`repoSourcePath` fails with "outside of the project root" exactly when walking the elements of `p2/sp`
(`escapesFrom`: a depth counter, independent of the stack model of `path.Clean`) steps above the project root at
some point; otherwise it returns the cleaned path. -/
theorem C12_escape_rejected (p2 sp : Bytes) (hsp : sp ≠ []) (hrel : pathIsAbs sp = false) (hp2 : pathIsAbs p2 = false) :
    (repoSourcePathGo (slash :: slash :: p2) sp = .err .outsideRoot ↔
      escapesFrom 0 (split slash (joinBuf [] [p2, sp])) = true) ∧
    (escapesFrom 0 (split slash (joinBuf [] [p2, sp])) = false →
      repoSourcePathGo (slash :: slash :: p2) sp = .ok (pathClean (joinBuf [] [p2, sp]))) := by
  have hrsp : repoSourcePathGo (slash :: slash :: p2) sp = rspCheck (pathClean (joinBuf [] [p2, sp])) := by
    rw [rsp_eq _ sp hsp, hrel, if_neg Bool.false_ne_true]
    exact if_pos (Nat.le_add_left 2 p2.length)
  have hhead : decide ((joinBuf [] [p2, sp]).head? = some slash) = false := by
    rw [joinBuf_two p2 sp hsp]
    apply decide_eq_false
    split
    · simpa [pathIsAbs] using hrel
    · rename_i hne
      cases p2 with
      | nil => exact absurd rfl hne
      | cons x t => simpa [pathIsAbs] using hp2
  have hiff := rejected_iff_escapes _ hhead
  rw [hrsp, rspCheck]
  refine ⟨⟨fun h => ?_, fun h => by rw [if_pos (hiff.mpr h)]⟩, fun h => ?_⟩
  · split at h
    · exact hiff.mp ‹_›
    · cases h
  · rw [if_neg (fun hr => by rw [hiff.mp hr] at h; cases h)]


/-- `repoSourcePath` and `sourceLabel` return (a path / label or an error) whenever the package has at least the
two bytes of `//` — every caller passes a module's package — or the source path is absolute. -/
theorem C12_source_path_total (pkg sp : Bytes) (h : 2 ≤ pkg.length ∨ pathIsAbs sp = true) :
    (repoSourcePathGo pkg sp).returns = true := by
  by_cases hsp : sp = []
  · subst hsp; rfl
  rw [rsp_eq pkg sp hsp]
  split
  · exact rspCheck_returns _
  · rename_i habs
    rw [if_pos (h.resolve_right habs)]
    exact rspCheck_returns _

/-- the hypothesis is needed: `pkg[2:]` with a package shorter than two bytes and a relative path is a run-time
panic in Go (replayed on the real code by the stream `label.rsp`; no caller can pass such a package). -/
theorem C12_short_package_counterexample : repoSourcePathGo [] [97] = .panic ∧ repoSourcePathGo [47] [97] = .panic := by
  decide +kernel

/-- the label `sourceLabel` makes for a source file (`sources=`, `glob`) is an identity like any other: when it
has a name it round-trips through its printed form (it is re-parsed as a dependency of the target). -/
theorem C12_source_label_roundtrip (pkg sp : Bytes) (l : Label) (h : sourceLabelGo pkg sp = .ok l)
    (hname : l.name ≠ []) : parseGo (print l) = .ok l := by
  rw [sourceLabelGo_eq] at h
  cases hq : repoSourcePathGo pkg sp with
  | ok q =>
    rw [hq, Out.ok_bind] at h
    have hwf : l.WF := by split at h <;> exact (new_wf rfl h).1
    exact parseGo_ok.mpr (parse_print hwf (Or.inl hname))
  | err e => rw [hq] at h; cases h
  | panic => rw [hq] at h; cases h
  | fuel => rw [hq] at h; cases h

/-- … and `sourceLabel` returns whenever `repoSourcePath` does -/
theorem C12_source_label_total (pkg sp : Bytes) (h : 2 ≤ pkg.length ∨ pathIsAbs sp = true) :
    (sourceLabelGo pkg sp).returns = true := by
  have hr := C12_source_path_total pkg sp h
  rw [sourceLabelGo_eq]
  cases hq : repoSourcePathGo pkg sp with
  | ok q =>
    rw [Out.ok_bind]
    split <;> exact returns_of_eq (newGo_eq _ _ _ _)
  | err e => rfl
  | panic => rw [hq] at hr; cases hr
  | fuel => rw [hq] at hr; cases hr

/-- the observation of DESIGN.md §5 (not a violation: the property exempts labels with a kind and no name): a
source path that cleans to the project root gives `source://`, which prints as `source://`; re-parsing that
returns (a label or an error) but not the same label. -/
theorem C12_source_root_observation :
    sourceLabelGo [47, 47, 97] [47] = .ok ⟨sourceKind, [], [47, 47], []⟩ ∧
    (parseGo (print ⟨sourceKind, [], [47, 47], []⟩)).returns = true ∧
    parseGo (print ⟨sourceKind, [], [47, 47], []⟩) ≠ .ok ⟨sourceKind, [], [47, 47], []⟩ := by
  decide +kernel

/-! ## build records (`targetInfoPath`) -/

/-- C12 "stable identities": the path of the build record of a label determines the label. `TipOK`: the labels a
project keeps records for — no project part, a kind without `/` that is not spelled `target`, an absolute
package, a non-empty name without `/` (names `.` and `..` included: the name is concatenated with `/` and escaped,
never joined as a path element). `work` is any work directory. -/
theorem C12_record_path_injective (work : Bytes) (l₁ l₂ : Label) (h₁ : TipOK l₁) (h₂ : TipOK l₂)
    (h : targetInfoPathGo work l₁ = targetInfoPathGo work l₂) : l₁ = l₂ := by
  obtain ⟨hd, hs⟩ := tip_dir_seg work l₁ l₂ h₁ h₂ h
  -- kinds
  have hk : l₁.kind = l₂.kind := by
    unfold tipDir at hd
    have hd' := List.append_cancel_right hd
    by_cases e1 : l₁.kind = [] <;> by_cases e2 : l₂.kind = []
    · rw [e1, e2]
    · simp only [e1, ↓reduceIte, e2] at hd'; exact absurd hd'.symm h₂.kindTarget
    · simp only [e1, ↓reduceIte, e2] at hd'; exact absurd hd' h₁.kindTarget
    · simpa [e1, e2] using hd'
  -- package and name
  unfold tipSeg at hs
  simp only [h₁.name, h₂.name, ↓reduceIte] at hs
  obtain ⟨hp, hn⟩ := append_sep_inj h₁.nameSlash h₂.nameSlash (by simpa using pathEscape_injective hs)
  have hpkg : l₁.pkg = l₂.pkg := by
    rw [(hasPrefixSS_length h₁.pkgAbs).2, (hasPrefixSS_length h₂.pkgAbs).2, hp]
  obtain ⟨k1, p1, g1, n1⟩ := l₁
  obtain ⟨k2, p2, g2, n2⟩ := l₂
  have hp1 := h₁.project
  have hp2 := h₂.project
  simp only at hk hpkg hn hp1 hp2
  rw [hk, hpkg, hn, hp1, hp2]

/-- … and every record lies exactly two levels below the work directory: `work / kind+"s" / escaped(pkg/name)` -/
theorem C12_record_path_below (work : Bytes) : ∃ base, ∀ l, TipOK l →
    ∃ p, targetInfoPathGo work l = .ok p ∧ pathComps p = base ++ [tipDir l, tipSeg l] := by
  refine ⟨(workStack work).reverse, fun l hl => ⟨_, tip_eq work l hl.pkgAbs, ?_⟩⟩
  rw [pathComps, tip_stack work _ _ (tipDir_normal l hl.kindSlash) (tipSeg_normal l)]
  simp

/-- each condition of `TipOK` is needed (observations on the unchanged code, outside what a project stores side by
side): the kinds `""` and `target` share a directory; the names `""` and `BUILD.dawn` share a record; the project
part is ignored. Work directory `/w`, package `//a`, name `n`. -/
theorem C12_record_path_counterexamples :
    targetInfoPathGo [47, 119] ⟨[], [], [47, 47, 97], [110]⟩ = targetInfoPathGo [47, 119] ⟨defaultKind, [], [47, 47, 97], [110]⟩ ∧
    targetInfoPathGo [47, 119] ⟨[], [], [47, 47, 97], []⟩ = targetInfoPathGo [47, 119] ⟨[], [], [47, 47, 97], defaultTarget⟩ ∧
    targetInfoPathGo [47, 119] ⟨[], [], [47, 47, 97], [110]⟩ = targetInfoPathGo [47, 119] ⟨[], [112], [47, 47, 97], [110]⟩ := by
  decide +kernel

/-! non-vacuity: `//docs:.`, `//docs/api:..` and `//:docs` are storable and have three different records
(`/w/targets/docs%2F.`, `/w/targets/docs%2Fapi%2F..`, `/w/targets/%2Fdocs`) -/
example : TipOK ⟨[], [], [47, 47, 100, 111, 99, 115], [46]⟩ := ⟨rfl, by decide, by decide, by decide, by decide, by decide⟩
example : targetInfoPathGo [47, 119] ⟨[], [], [47, 47, 100, 111, 99, 115], [46]⟩ = .ok [47, 119, 47, 116, 97, 114, 103, 101, 116, 115, 47, 100, 111, 99, 115, 37, 50, 70, 46] ∧
    targetInfoPathGo [47, 119] ⟨[], [], [47, 47, 100, 111, 99, 115, 47, 97, 112, 105], [46, 46]⟩ = .ok [47, 119, 47, 116, 97, 114, 103, 101, 116, 115, 47, 100, 111, 99, 115, 37, 50, 70, 97, 112, 105, 37, 50, 70, 46, 46] ∧
    targetInfoPathGo [47, 119] ⟨[], [], [47, 47], [100, 111, 99, 115]⟩ = .ok [47, 119, 47, 116, 97, 114, 103, 101, 116, 115, 47, 37, 50, 70, 100, 111, 99, 115] := by decide +kernel

/-- The side condition is necessary (the exemption in the property text): `k:p:` is accepted with kind `k`,
package `p` and no name, prints as `k:p`, and that is the label with package `k` and name `p`. -/
theorem C12_kind_without_name_counterexample :
    parseGo [107, colon, 112, colon] = .ok ⟨[107], [], [112], []⟩ ∧
    print ⟨[107], [], [112], []⟩ = [107, colon, 112] ∧
    parseGo [107, colon, 112] = .ok ⟨[], [], [107], [112]⟩ := by decide +kernel

/-! non-vacuity: concrete accepted labels with every field present, relative and absolute
(byte lists: `k:proj/x//a/b:n`, `a//b///c`, `b/c:n` against `//a`, and four rejected strings) -/
example : parseGo [107, 58, 112, 114, 111, 106, 47, 120, 47, 47, 97, 47, 98, 58, 110] = .ok ⟨[107], [112, 114, 111, 106, 47, 120], [47, 47, 97, 47, 98], [110]⟩ := by decide +kernel
example : parseGo [97, 47, 47, 98, 47, 47, 47, 99] = .ok ⟨[], [97], [47, 47, 98, 47, 99], []⟩ := by decide +kernel
example : relativeToGo ⟨[], [], [98, 47, 99], [110]⟩ [47, 47, 97] = .ok ⟨[], [], [47, 47, 97, 47, 98, 47, 99], [110]⟩ ∧
    print ⟨[], [], [47, 47, 97, 47, 98, 47, 99], [110]⟩ = [47, 47, 97, 47, 98, 47, 99, 58, 110] := by decide +kernel
example : parseGo [97, 47, 46, 47, 98] = .err .pkgDot ∧ parseGo [47, 97] = .err .absSingle ∧
    parseGo [97, 58, 98, 47, 99] = .err .nameSlash ∧ parseGo [120, 58, 121, 58, 122, 58, 119] = .err .pkgColon := by decide +kernel

/-! non-vacuity of the path theorems: `//a/b` + `../x` is accepted as `a/x`; `//a` + `../../x` escapes and is
rejected; `/../x` (absolute) is accepted as `/x` -/
example : repoSourcePathGo [47, 47, 97, 47, 98] [46, 46, 47, 120] = .ok [97, 47, 120] := by decide +kernel
example : repoSourcePathGo [47, 47, 97] [46, 46, 47, 46, 46, 47, 120] = .err .outsideRoot ∧
    escapesFrom 0 (split slash (joinBuf [] [[97], [46, 46, 47, 46, 46, 47, 120]])) = true := by decide +kernel
example : repoSourcePathGo [47, 47, 97] [47, 46, 46, 47, 120] = .ok [47, 120] := by decide +kernel
example : pathComps [47, 114] <+: pathComps ([47, 114] ++ slash :: [97, 47, 120]) := by decide +kernel

end Dawn.Label
