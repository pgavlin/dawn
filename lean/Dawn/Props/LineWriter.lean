import Dawn.Proofs.LineWriter
/-!
# C18 — build events and target output follow a well-formed protocol

The property theorems and concrete instances of them. `Dawn.LineWriter.write`/`flush` model `(*lineWriter).Write`/`Flush` (lineWriter.go),
`Dawn.Events.evaluate` models the event emissions of `runTarget.Evaluate` (target.go) and
`Dawn.Events.projectRun` the tail of `Project.Run` (project.go). They are tied to the source by
`Dawn/Ties/LineWriter.lean` and by the correspondence streams `lw.*`, `ev.*` of `checks/C18.py`.
`Dawn.Events.firstFailed`, in which `C18_shape` states its side conditions, is defined with the lemmas about
`evaluate` in `Dawn/Proofs/LineWriter.lean`.
-/
namespace Dawn.LineWriter

/-- C18, output delivery. The theorem is about ONE writer receiving ONE sequence of `Write` calls (the line
writer has no lock). That hypothesis is established by the code, not assumed silently: a target body's stdout
and stderr are the identical writer and every builtin that runs a process passes the two on unwrapped, so `os/exec`
and the shell interpreter copy from a single pipe in a single goroutine — tie `single_writer_ok` in
`Dawn/Ties/LineWriter.lean`, and the harness runs real processes writing to both streams (stream `ev.output`,
judge `process-lines`, and the race detector in the thorough tier).

Whatever the chunking of the writes, a fresh writer followed by `Flush` delivers
exactly the lines of the concatenated output, in order, each once (the final partial line included), and
ends with an empty builder. -/
theorem C18_lines (chunks : List Bytes) :
    (run [] (chunks.map Op.write ++ [Op.flush])).2 = splitLines chunks.flatten ∧
    (run [] (chunks.map Op.write ++ [Op.flush])).1 = [] := by
  rw [run_writes_flush]
  exact ⟨rfl, rfl⟩

/-- C18, chunking independence, stated directly: two ways of cutting the same output deliver the same lines. -/
theorem C18_lines_chunking (c₁ c₂ : List Bytes) (h : c₁.flatten = c₂.flatten) :
    (run [] (c₁.map Op.write ++ [Op.flush])).2 = (run [] (c₂.map Op.write ++ [Op.flush])).2 := by
  rw [(C18_lines c₁).1, (C18_lines c₂).1, h]

/-- C18, lines are delivered as soon as they are complete: while the body is still writing (no flush yet) the
lines already delivered plus the pending partial line account for exactly what has been written. -/
theorem C18_lines_incremental (chunks : List Bytes) :
    splitLines chunks.flatten =
      (run [] (chunks.map Op.write)).2 ++ linesFrom (run [] (chunks.map Op.write)).1 [] := by
  simpa [splitLines] using run_writes_spec [] chunks []

/-- C18, reuse (the repair of D10): after `Flush` the writer is a fresh one — whatever was done before, the
builder is empty, so a second run on the same loaded project starts from the state `newLineWriter` gives. -/
theorem C18_reuse (line : Bytes) (ops ops' : List Op) :
    (run line (ops ++ [Op.flush])).1 = [] ∧
    run line (ops ++ [Op.flush] ++ ops') =
      ((run [] ops').1, (run line (ops ++ [Op.flush])).2 ++ (run [] ops').2) := by
  have h1 : (run line (ops ++ [Op.flush])).1 = [] := by
    simp only [run]
    rw [runWith_append]
    simp only [runWith, flush_eq]
  refine ⟨h1, ?_⟩
  simp only [run] at *
  rw [runWith_append, h1]

/-- two builds in a row on one writer: each delivers exactly its own lines -/
theorem C18_two_runs (c₁ c₂ : List Bytes) :
    (run [] (c₁.map Op.write ++ [Op.flush] ++ (c₂.map Op.write ++ [Op.flush]))).2 =
      splitLines c₁.flatten ++ splitLines c₂.flatten := by
  rw [(C18_reuse [] (c₁.map Op.write) (c₂.map Op.write ++ [Op.flush])).2]
  simp only [(C18_lines c₁).1, (C18_lines c₂).1]

/-- D10 (regression witness): with `Flush` as it was (no `Reset`), a partial line left by the first run is
delivered again, glued to the first line of the second run. -/
theorem C18_reuse_counterexample :
    let a : Bytes := [97]            -- "a"
    let b : Bytes := [98, 10]        -- "b\n"
    (runOld [] [.write a, .flush, .write b, .flush]).2 = [[97], [97, 98]] ∧
    splitLines a ++ splitLines b = [[97], [98]] ∧
    (runOld [] [.write a, .flush]).1 ≠ [] := by
  simp [runOld, runWith, write, cutNL, flushOld, nl, splitLines, linesFrom]

/-! non-vacuity: concrete chunkings, including a newline at a chunk boundary and an empty chunk -/
example : (run [] ([[97, 10, 98], [], [99, 10], [10, 100]].map Op.write ++ [Op.flush])).2
    = [[97], [98, 99], [], [100]] := by simp [run, runWith, write, cutNL, flush, nl]
example : splitLines [97, 10, 98, 99, 10, 10, 100] = [[97], [98, 99], [], [100]] := by decide
example : (run [] ([[97], [10], [98]].map Op.write)) = ([98], [[97]]) := by simp [run, runWith, write, cutNL, nl]

end Dawn.LineWriter

namespace Dawn.Events

/-- C18, shape: the events a target reports for itself are one of the five allowed sequences, each exactly
under its side condition (DESIGN.md §4): nothing iff its first failed dependency failed for a reason other
than being missing or cyclic; a lone `failed` iff that dependency is missing or cyclic, or the up-to-date
check itself failed; `upToDate` iff the skip test held; otherwise `evaluating` followed by exactly one of
`succeeded` / `failed`. `Evaluate` returns an error exactly when it reported `failed` or nothing. -/
theorem C18_shape (f : Facts) :
    let evs := (evaluate f).1
    (evs = [] ∨ evs = [.upToDate] ∨ evs = [.evaluating, .succeeded] ∨ evs = [.evaluating, .failed] ∨ evs = [.failed]) ∧
    (evs = [] ↔ firstFailed f.deps = some .other) ∧
    (evs = [.failed] ↔ firstFailed f.deps = some .missing ∨ firstFailed f.deps = some .cyclic ∨
                        (firstFailed f.deps = none ∧ f.upToDateErr = true)) ∧
    (evs = [.upToDate] ↔ firstFailed f.deps = none ∧ f.upToDateErr = false ∧ f.skip = true) ∧
    (evs = [.evaluating, .succeeded] ↔ firstFailed f.deps = none ∧ f.upToDateErr = false ∧ f.skip = false ∧
                        (f.dryRun = true ∨ ((f.isTarget = false ∨ f.preSaveOk = true) ∧ f.bodyOk = true ∧ f.saveOk = true))) ∧
    (evs = [.evaluating, .failed] ↔ firstFailed f.deps = none ∧ f.upToDateErr = false ∧ f.skip = false ∧
                        f.dryRun = false ∧
                        ((f.isTarget = true ∧ f.preSaveOk = false) ∨ f.bodyOk = false ∨ f.saveOk = false)) ∧
    ((evaluate f).2 = true ↔ evs = [] ∨ evs = [.failed] ∨ evs = [.evaluating, .failed]) := by
  intro evs
  -- every side condition is a condition on the four tests of `evaluate_eq`: one case for each way they can come out
  simp only [evs, evaluate_eq, ← succeeds_iff, ← succeeds_false_iff]
  cases hff : firstFailed f.deps with
  | some d =>
    have := firstFailed_ne_ok f.deps
    cases d <;> simp_all
  | none => cases f.upToDateErr <;> cases f.skip <;> cases succeeds f <;> simp

/-- C18: `evaluating` is reported exactly when the body runs, or would run were this not a dry run; it is
reported at most once and before any other event of the target; and in a real build it is reported iff the
body is called — unless the in-progress record a function target writes first cannot be written (an I/O fault:
the target then fails before its body). -/
theorem C18_eval_iff (f : Facts) :
    (.evaluating ∈ (evaluate f).1 ↔ bodyWouldRun f = true) ∧
    ((evaluate f).1.count .evaluating ≤ 1) ∧
    (.evaluating ∈ (evaluate f).1 → (evaluate f).1.head? = some .evaluating) ∧
    (bodyRuns f = true ↔ .evaluating ∈ (evaluate f).1 ∧ f.dryRun = false ∧ (f.isTarget = true → f.preSaveOk = true)) := by
  suffices h : (.evaluating ∈ (evaluate f).1 ↔ bodyWouldRun f = true) ∧ ((evaluate f).1.count .evaluating ≤ 1) ∧
      (.evaluating ∈ (evaluate f).1 → (evaluate f).1.head? = some .evaluating) from
    ⟨h.1, h.2.1, h.2.2, by rw [bodyRuns_iff, h.1]⟩
  simp only [bodyWouldRun_eq, evaluate_eq]
  cases hff : firstFailed f.deps with
  | some d =>
    have := firstFailed_ne_ok f.deps
    cases d <;> simp_all
  | none => cases f.upToDateErr <;> cases f.skip <;> cases succeeds f <;> simp

/-- C18: a target that fails — for whatever reason, reported or not — is an `other` failure to its dependents,
so (being their first failed dependency) it makes them report nothing; a target that did not fail is `ok`. -/
theorem C18_downstream (f : Facts) :
    depOf false (some (evaluate f)) = (if (evaluate f).2 then Dep.other else Dep.ok) ∧
    ∀ g : Facts, g.deps = [depOf false (some (evaluate f))] → (evaluate f).2 = true → evaluate g = ([], true) := by
  have h1 : depOf false (some (evaluate f)) = (if (evaluate f).2 then Dep.other else Dep.ok) := by
    simp only [depOf, Bool.false_eq_true, ↓reduceIte]
    cases h : (evaluate f) with
    | mk a b => cases b <;> simp
  refine ⟨h1, fun g hg he => ?_⟩
  rw [h1, he] at hg
  simp [evaluate, hg, depLoop]

/-- C18, output inside the window: when the body of a target runs and writes `chunks` (any chunking), what the
target delivers is `evaluating`, then exactly the lines of the concatenated output, each once and in order, then
exactly one of `succeeded` / `failed` — and the writer is left empty for the next build; when the body does not
run (up to date, dry run, failed dependency or up-to-date check) no line is delivered at all. -/
theorem C18_output (f : Facts) (chunks : List (List UInt8)) :
    (bodyRuns f = true →
      ∃ last, (last = Ev.succeeded ∨ last = Ev.failed) ∧
        evaluateOut f [] chunks =
          ([Out.ev .evaluating] ++ (LineWriter.splitLines chunks.flatten).map Out.print ++ [Out.ev last],
           (evaluate f).2, [])) ∧
    (bodyRuns f = false →
      evaluateOut f [] chunks = ((evaluate f).1.map Out.ev, (evaluate f).2, []) ∧
      ∀ o ∈ (evaluateOut f [] chunks).1, ∀ l, o ≠ Out.print l) := by
  constructor
  · intro hb
    have hl := LineWriter.C18_lines chunks
    refine ⟨if succeeds f then .succeeded else .failed, by cases succeeds f <;> simp, ?_⟩
    simp only [evaluateOut, hb, ↓reduceIte, hl.1, hl.2, evaluate_of_bodyWouldRun ((bodyRuns_iff f).1 hb).1]
    rfl
  · intro hb
    simp only [evaluateOut, hb, Bool.false_eq_true, ↓reduceIte, true_and]
    intro o ho l
    obtain ⟨e, _, rfl⟩ := List.mem_map.mp ho
    simp

/-- C18: run-done is delivered exactly once, after every event of the run (in particular after the requested
target's last event), and carries the error `Run` returns, which is the requested target's result. -/
theorem C18_rundone {L : Type} [DecidableEq L] (body : List (RunEv L) × Bool)
    (hbody : ∀ e ∈ body.1, ∀ err, e ≠ .runDone err) :
    let r := projectRun body
    r.2 = body.2 ∧
    r.1.getLast? = some (.runDone body.2) ∧
    (r.1.filter (fun e => match e with | .runDone _ => true | _ => false)) = [.runDone body.2] ∧
    r.1.dropLast = body.1 := by
  intro r
  simp only [r, projectRun, List.getLast?_append, List.getLast?_singleton, List.filter_append,
    List.dropLast_concat, true_and]
  refine ⟨by simp, ?_⟩
  have : body.1.filter (fun e => match e with | .runDone _ => true | _ => false) = [] := by
    rw [List.filter_eq_nil_iff]
    intro e he
    cases e with
    | runDone err => exact absurd rfl (hbody _ he err)
    | target _ _ => simp
    | print _ _ => simp
  rw [this]
  simp

/-! non-vacuity: each allowed shape is produced by concrete facts -/
def sample : Facts := { deps := [.ok, .ok], upToDateErr := false, always := false, depsUpToDate := true,
                        upToDate := true, rerun := false, dryRun := false, isTarget := true, preSaveOk := true,
                        bodyOk := true, saveOk := true }
example : evaluate sample = ([.upToDate], false) := by decide
example : evaluate { sample with upToDate := false } = ([.evaluating, .succeeded], false) := by decide
example : evaluate { sample with rerun := true, bodyOk := false } = ([.evaluating, .failed], true) := by decide
example : evaluate { sample with upToDate := false, saveOk := false } = ([.evaluating, .failed], true) := by decide
example : evaluate { sample with upToDate := false, preSaveOk := false } = ([.evaluating, .failed], true) := by decide
example : bodyRuns { sample with upToDate := false, preSaveOk := false } = false := by decide
example : evaluate { sample with deps := [.ok, .missing, .other] } = ([.failed], true) := by decide
example : evaluate { sample with deps := [.ok, .cyclic] } = ([.failed], true) := by decide
example : evaluate { sample with deps := [.other, .missing] } = ([], true) := by decide
example : evaluate { sample with always := true, dryRun := true, bodyOk := false } = ([.evaluating, .succeeded], false) := by decide
example : (projectRun (L := Nat) ([.target 1 .evaluating, .print 1 [97], .target 1 .failed], true)).1.getLast? =
    some (.runDone true) := by decide

end Dawn.Events
