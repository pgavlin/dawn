import Dawn.Props.Label
import Dawn.Props.Build
/-!
# One `targetInfoPath`, two models: the link between `Dawn.Label` (C12) and `Dawn.Build` (C14)

`project.go:targetInfoPath` and `url.PathEscape` are modelled twice, by hand: in `Dawn/Model/Label.lean`
(`targetInfoPathGo`, `pathEscape`; theorems `C12_record_path_injective`, `C12_record_path_below`) and in
`Dawn/Model/Build.lean` (`targetInfoPath`, `pathEscape`; theorem `C14_path_injective`). This file proves that they are
the same function, so that neither can drift without this module ceasing to build:

* the Build model keeps a label as `(kind, package without its leading "//", name)` and answers the pair
  `(directory, file name)` below `.dawn/build`; the Label model keeps the whole `label.Label` (with project, package
  *with* `//`) and answers the full path `filepath.Join(work, directory, file name)`, i.e. it also models the cleaning
  that `filepath.Join` performs. `toLabel` / `ofLabel` translate.
* `C12_path_escape_models_agree`: the two models of `url.PathEscape` are equal on every byte string.
* `C12_target_info_path_models_agree`: for every Build label, Build's pair is `(tipDir, tipSeg)` of the translated
  label, and the Label model's path is `path.Clean(work + "/" + dir + "/" + file)` of exactly that pair.
* the injectivity theorems follow from one another through the link (`C14_path_injective_from_C12`,
  `C12_record_path_injective_from_C14`).

One difference, which is about what is *claimed*, not about the functions: Build's `Storable` does not exclude a `/`
inside the kind, because its model stops before `filepath.Join`. With such kinds the real path is not injective
(`link_kind_with_slash_counterexample`: the kinds `a` and `x/../a` — the real function, run on both, answers
`…/as/p%2Fn` twice). No kind the system uses contains a `/` (`label.New` rejects it); the Label model's `TipOK`
states that condition, and the corollary below carries it.
-/
namespace Dawn.Link
open Dawn

/-- a Build label as a `label.Label` of the project itself -/
def toLabel (l : Build.LabelS) : Label.Label := ⟨l.kind, [], [Label.slash, Label.slash] ++ l.pkg, l.name⟩

/-- the Build view of a label (meaningful for absolute packages) -/
def ofLabel (l : Label.Label) : Build.LabelS := ⟨l.kind, l.pkg.drop 2, l.name⟩

theorem ofLabel_toLabel (l : Build.LabelS) : ofLabel (toLabel l) = l := by
  cases l; rfl

/-- the two models of `url.PathEscape` are the same function -/
theorem C12_path_escape_models_agree (s : List UInt8) : Build.pathEscape s = Label.pathEscape s :=
  Label.pathEscape_eq_build s

theorem build_path_eq_tip (l : Build.LabelS) :
    Build.targetInfoPath l = (Label.tipDir (toLabel l), Label.tipSeg (toLabel l)) := by
  obtain ⟨k, g, n⟩ := l
  unfold Build.targetInfoPath Label.tipDir Label.tipSeg toLabel
  have hnil : ∀ x a : List UInt8, (if (x == []) = true then a else x) = if x = [] then a else x := fun x a => by
    cases x <;> rfl
  simp only [C12_path_escape_models_agree, hnil]
  rfl

/-- the two models of `targetInfoPath` agree: the Label model's path is `filepath.Join(work, dir, file)` of the pair the
Build model answers, for every Build label and every work directory -/
theorem C12_target_info_path_models_agree (work : List UInt8) (l : Build.LabelS) :
    Label.targetInfoPathGo work (toLabel l) =
      .ok (Label.pathClean (work ++ [Label.slash] ++ (Build.targetInfoPath l).1 ++ [Label.slash] ++ (Build.targetInfoPath l).2)) := by
  rw [build_path_eq_tip]
  exact Label.tip_eq work (toLabel l) (by simp [toLabel, Label.hasPrefixSS])

theorem tipOK_of_storable {l : Build.LabelS} (h : Build.Storable l) (hk : Label.slash ∉ l.kind) : Label.TipOK (toLabel l) :=
  ⟨rfl, hk, h.kind, by simp [toLabel, Label.hasPrefixSS], h.name, h.noSlash⟩

theorem storable_of_tipOK {l : Label.Label} (h : Label.TipOK l) : Build.Storable (ofLabel l) :=
  ⟨h.kindTarget, h.name, h.nameSlash⟩

/-- sanity corollary: C14's injectivity from C12's, through the link (for kinds without `/`, the condition C12 states) -/
theorem C14_path_injective_from_C12 {l₁ l₂ : Build.LabelS} (h₁ : Build.Storable l₁) (h₂ : Build.Storable l₂)
    (k₁ : Label.slash ∉ l₁.kind) (k₂ : Label.slash ∉ l₂.kind)
    (h : Build.targetInfoPath l₁ = Build.targetInfoPath l₂) : l₁ = l₂ := by
  have hp : Label.targetInfoPathGo [] (toLabel l₁) = Label.targetInfoPathGo [] (toLabel l₂) := by
    rw [C12_target_info_path_models_agree, C12_target_info_path_models_agree, h]
  have := Label.C12_record_path_injective [] _ _ (tipOK_of_storable h₁ k₁) (tipOK_of_storable h₂ k₂) hp
  rw [← ofLabel_toLabel l₁, ← ofLabel_toLabel l₂, this]

theorem toLabel_ofLabel {l : Label.Label} (h : Label.TipOK l) : toLabel (ofLabel l) = l := by
  obtain ⟨k, p, g, n⟩ := l
  have hg : g = [Label.slash, Label.slash] ++ g.drop 2 := (Label.hasPrefixSS_length h.pkgAbs).2
  have hp : p = [] := h.project
  rw [toLabel, ofLabel, ← hg, hp]

/-- … and C12's from C14's: equal full paths have equal `(dir, file)` pairs (the stack argument of
`Proofs/LabelTip.lean`), which are Build's pairs, whose injectivity is `C14_path_injective` -/
theorem C12_record_path_injective_from_C14 (work : List UInt8) (l₁ l₂ : Label.Label) (h₁ : Label.TipOK l₁) (h₂ : Label.TipOK l₂)
    (h : Label.targetInfoPathGo work l₁ = Label.targetInfoPathGo work l₂) : l₁ = l₂ := by
  obtain ⟨hd, hs⟩ := Label.tip_dir_seg work l₁ l₂ h₁ h₂ h
  have hb : Build.targetInfoPath (ofLabel l₁) = Build.targetInfoPath (ofLabel l₂) := by
    rw [build_path_eq_tip, build_path_eq_tip, toLabel_ofLabel h₁, toLabel_ofLabel h₂, hd, hs]
  have := Build.C14_path_injective (storable_of_tipOK h₁) (storable_of_tipOK h₂) hb
  rw [← toLabel_ofLabel h₁, ← toLabel_ofLabel h₂, this]

/-- where the claims differ: Build's `Storable` admits kinds with a `/`; its pairs for the kinds `a` and `x/../a` differ
(so `C14_path_injective` calls the labels distinguishable) while the path the real code computes — the Label model's,
which includes `filepath.Join`'s cleaning — is the same for both. Package `//p`, name `n`, work directory `/w`. -/
theorem link_kind_with_slash_counterexample :
    let l₁ : Build.LabelS := ⟨[97], [112], [110]⟩
    let l₂ : Build.LabelS := ⟨[120, 47, 46, 46, 47, 97], [112], [110]⟩
    Build.Storable l₁ ∧ Build.Storable l₂ ∧ Build.targetInfoPath l₁ ≠ Build.targetInfoPath l₂ ∧
    Label.targetInfoPathGo [47, 119] (toLabel l₁) = Label.targetInfoPathGo [47, 119] (toLabel l₂) := by
  refine ⟨⟨by decide, by decide, by decide⟩, ⟨by decide, by decide, by decide⟩, by decide +kernel, by decide +kernel⟩

/-! non-vacuity: the label `//docs:.` of kind `source` in both representations, and its record -/
example : Build.Storable ⟨[115, 111, 117, 114, 99, 101], [100, 111, 99, 115], [46]⟩ := ⟨by decide, by decide, by decide⟩
example : Build.targetInfoPath ⟨[115, 111, 117, 114, 99, 101], [100, 111, 99, 115], [46]⟩ =
    ([115, 111, 117, 114, 99, 101, 115], [100, 111, 99, 115, 37, 50, 70, 46]) := by decide +kernel
example : Label.targetInfoPathGo [47, 119] (toLabel ⟨[115, 111, 117, 114, 99, 101], [100, 111, 99, 115], [46]⟩) =
    .ok [47, 119, 47, 115, 111, 117, 114, 99, 101, 115, 47, 100, 111, 99, 115, 37, 50, 70, 46] := by decide +kernel

end Dawn.Link
