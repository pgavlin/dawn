import Dawn.Proofs.DiffTop
/-!
# C16 — diffs are faithful to both values

The property theorems, with `partChanged` (what `C16_reason` compares the reason with) and the lemma that ties it
to the edits. The rest of their vocabulary is defined where the proofs need it: `Recon`, `EditOK`, `ReplOK`, `E` in
`Proofs/DiffMerge`, `All2` in `Proofs/DiffArr`, `eqbV`, `editFor`, `KeysDistinct`, `litOf` in `Proofs/DiffTop`,
`Val.dictFree` in `Proofs/DiffVal`. `diffDepth` models `diff.DiffDepth`, `diffSliceEdits` the sequence diff `diffSlice`
(the O(NP) search `compose`/`snake`, `recordSeq`, `extend`, the replace merge), `mappingEdits` the two loops of
`diffMapping`, `equalDepth` is `starlark.EqualDepth`, `diffEnv` the rebuild reason of `function.go`. They are
tied to the source by `Dawn/Ties/Diff.lean` and by the correspondence streams `diff.*` of `checks/C16.py`.
-/
namespace Dawn.Diff

/-- C16, empty iff equal: `DiffDepth` answers `nil` exactly when `EqualDepth` (same depth) says the values are
equal; when it says they differ the answer is a diff or the depth error of a nested comparison, never `nil`. -/
theorem C16_empty_iff (d : Nat) (a b : Val) :
    (diffDepth d a b = .ok none ↔ equalDepth d a b = .ok true) ∧
    (equalDepth d a b = .ok false → diffDepth d a b ≠ .ok none) := by
  have h := diffDepthWith_none_iff defaultRouteSize false d a b
  exact ⟨h, fun hf hn => nomatch hf.symm.trans (h.mp hn)⟩

/-- C16, what "equal" means: within the depth limit and on values without dicts `EqualDepth` is equality of the
values (for dicts it is equality up to the order of insertion, which the correspondence stream `diff.equal`
compares with the implementation); so the diff of two such values is empty exactly when they are the same. -/
theorem C16_empty_iff_same (d : Nat) (a b : Val) (hf : a.dictFree = true) (hh : a.height ≤ d) :
    diffDepth d a b = .ok none ↔ a = b := by
  rw [(C16_empty_iff d a b).1, equalDepth_dictFree d a b hf hh]
  simp only [Except.ok.injEq]
  exact Val.beq_iff_eq a b

/-- C16, sides: a diff reports the two values it was made from, in the order given (the repair of D5). -/
theorem C16_sides (d : Nat) (a b : Val) (x : VDiff) (h : diffDepth d a b = .ok (some x)) :
    x.old = a ∧ x.new = b :=
  diffDepthWith_sides defaultRouteSize d a b x h

/-- D5 (regression witness): `diffSlice` as it was built its result from the two sequences *after* exchanging
them (it exchanges them whenever the old one is not shorter): the diff of "abc" and "abd" reported "abd" as the
old value. With the repair it reports "abc". -/
theorem C16_sides_counterexample :
    let abc : Val := .str [97, 98, 99]
    let abd : Val := .str [97, 98, 100]
    (match diffDepthWith defaultRouteSize true compareLimit abc abd with
     | .ok (some x) => x.old.beq abd && x.new.beq abc
     | _ => false) = true ∧
    (match diff abc abd with
     | .ok (some x) => x.old.beq abc && x.new.beq abd
     | _ => false) = true := by
  decide +kernel

/-- C16, faithful edits (sequences), for the sequence diff on lists over any element type, whatever `routeSize`
(so including the restart path): provided the element comparison does not fail (`heq`, in both argument orders
because `diffSlice` may exchange the sequences) and, when replacements are diffed element by element, those
diffs do not fail (`hD`), `diffSlice` returns an edit script and the script reproduces both sequences
(`Recon`): the values of its `common` and `delete` edits and the old sides of its `replace` edits, in order,
are exactly `a`; the values of its `add` edits, the new sides of its `replace` edits and, for `common` edits,
elements found equal to the kept ones, are exactly `b`; every entry of a `replace` is the diff of the pair of
elements at that position (`None` iff that diff is empty, i.e. the elements are equal). -/
theorem C16_faithful {α δ : Type} (eq : α → α → Except Err Bool) (eqb : α → α → Bool)
    (elemDiff : α → α → Except Err (Option δ)) (lit : Option (List α → List α → δ))
    (routeSize : Nat) (hrs : 1 ≤ routeSize) (a b : List α)
    (heq : ∀ x ∈ a, ∀ y ∈ b, eq x y = .ok (eqb x y)) (heq' : ∀ x ∈ b, ∀ y ∈ a, eq x y = .ok (eqb x y))
    (hD : ∀ x ∈ a, ∀ y ∈ b, lit = none → ∃ d, elemDiff x y = .ok d) :
    ∃ edits, diffSliceEdits eq elemDiff lit routeSize a b = .ok edits ∧ Recon eqb elemDiff lit edits a b :=
  diffSliceEdits_spec eq eqb elemDiff lit routeSize hrs a b heq heq' hD

/-- C16, termination and memory safety of the search: the rounds `for p := 0; ; p++` get fuel `m + n + 2`, the
passes `for { … }` fuel `m + n + 1`, the route extraction `len(points) + 1`, every array access is checked —
and none of these bounds is ever hit: the result is never `outOfFuel` and never a Go panic. -/
theorem C16_terminates {α δ : Type} (eq : α → α → Except Err Bool) (eqb : α → α → Bool)
    (elemDiff : α → α → Except Err (Option δ)) (lit : Option (List α → List α → δ))
    (routeSize : Nat) (hrs : 1 ≤ routeSize) (a b : List α)
    (heq : ∀ x ∈ a, ∀ y ∈ b, eq x y = .ok (eqb x y)) (heq' : ∀ x ∈ b, ∀ y ∈ a, eq x y = .ok (eqb x y))
    (hD : ∀ x ∈ a, ∀ y ∈ b, lit = none → ∃ d, elemDiff x y = .ok d) :
    diffSliceEdits eq elemDiff lit routeSize a b ≠ .error .outOfFuel ∧
    diffSliceEdits eq elemDiff lit routeSize a b ≠ .error .indexPanic := by
  obtain ⟨edits, h, _⟩ := C16_faithful eq eqb elemDiff lit routeSize hrs a b heq heq' hD
  rw [h]; exact ⟨nofun, nofun⟩

/-- C16 for Starlark values, totality: `DiffDepth` on values no deeper than its depth (and no deeper than the
limit 1000 of `snake`, plus one) returns a diff or `nil` — no depth error, no panic, no fuel shortage. `Diff`
uses depth `CompareLimit = 10`. -/
theorem C16_total (d : Nat) (a b : Val) (ha : a.height ≤ d) (hb : b.height ≤ d) (hd : d ≤ snakeDepth + 1) :
    ∃ r, diffDepth d a b = .ok r :=
  diffDepthWith_total defaultRouteSize (by decide) false d a b ha hb hd

/-- C16 for Starlark values, faithful edits: the sequence diff of two strings, bytes, tuples or lists (any mix)
reproduces the elements of both, with replacements diffed one level down (for two strings or bytes: one literal
diff of the two pieces). -/
theorem C16_faithful_values (d : Nat) (a b : Val) (xs ys : List Val)
    (hxs : a.elems? = some xs) (hys : b.elems? = some ys)
    (ha : a.height ≤ d + 1) (hb : b.height ≤ d + 1) (hd : d ≤ snakeDepth)
    (hne : equalDepth (d + 1) a b = .ok false) :
    ∃ edits, diffDepth (d + 1) a b = .ok (some (.slice a b edits)) ∧
      Recon eqbV (diffDepth d) (litOf a b) edits xs ys := by
  obtain ⟨edits, he, hr⟩ := slice_case defaultRouteSize (by decide) (diffDepthWith defaultRouteSize false d) d
    (fun x y h1 h2 => diffDepthWith_total defaultRouteSize (by decide) false d x y h1 h2 (by omega))
    a b xs ys hxs hys ha hb hd
  refine ⟨edits, ?_, hr⟩
  rw [diffDepth, diffDepthWith_slice _ _ _ _ _ hne hxs hys, he]
  rfl

/-- C16, mappings: `diffMapping` reports an edit exactly for each key added, removed or changed, with the right
kind and content: a key only in the old mapping is a `delete` of its old value, a key only in the new one an
`add` of its new value, a key in both is a `replace` carrying the diff of the two values — unless that diff is
empty (the values are equal), in which case there is no edit for the key; a key in neither has no edit. -/
theorem C16_mapping (f : Val → Val → Except Err (Option VDiff)) (old new : List (Val × Val))
    (es : List (Val × Edit Val VDiff)) (ho : KeysDistinct old) (hn : KeysDistinct new)
    (h : mappingEdits f old new = .ok es) (k : Val) :
    match lookup k old, lookup k new with
    | none, none => editFor k es = none
    | some ov, none => editFor k es = some (k, .delete [ov])
    | none, some nv => editFor k es = some (k, .add [nv])
    | some ov, some nv => (f ov nv = .ok none ∧ editFor k es = none) ∨
                          (∃ d, f ov nv = .ok (some d) ∧ editFor k es = some (k, .replace [some d])) :=
  mappingEdits_spec f old new es ho hn h k

/-- the part `k` of two environments differs: present in one only, or with values that do not compare equal -/
def partChanged (k : Val) (old new : List (Val × Val)) : Bool :=
  match lookup k old, lookup k new with
  | none, none => false
  | some ov, some nv =>
    match equalDepth (envDepth - 1) ov nv with
    | .ok true => false
    | _ => true
  | _, _ => true

theorem hasEdit_eq_partChanged {rs : Nat} {sw : Bool} {old new : List (Val × Val)} {edits : List (Val × Edit Val VDiff)}
    (ho : KeysDistinct old) (hn : KeysDistinct new)
    (h : mappingEdits (diffDepthWith rs sw (envDepth - 1)) old new = .ok edits) (key : Val) :
    hasEdit key edits = partChanged key old new := by
  have hs := mappingEdits_spec _ old new edits ho hn h key
  rw [hasEdit_eq, partChanged]
  cases hlo : lookup key old <;> cases hln : lookup key new <;> simp only [hlo, hln] at hs ⊢
  · rw [hs]; rfl
  · rw [hs]; rfl
  · rw [hs]; rfl
  · next ov nv =>
    have hiff := diffDepthWith_none_iff rs sw (envDepth - 1) ov nv
    rcases hs with ⟨e1, e2⟩ | ⟨dd, e1, e2⟩
    · rw [e2, hiff.mp e1]; rfl
    · rw [e2]
      split
      · next hc => rw [hiff.mpr hc] at e1; cases e1
      · rfl

/-- C16, rebuild reason: when `diffEnv` reports two environment dicts as changed, the reason it shows names
exactly the parts (keys of `functionEnvKeys`, in that order) whose values differ, joined as
"a", "a and b" or "a, b, and c", followed by " changed"; and when they differ only in a part that is not one of
`functionEnvKeys` (a record written by another version) the reason is the generic "environment changed" — with
the diff (the repair of D28; the code used to panic there). -/
theorem C16_reason (old new : List (Val × Val)) (ho : KeysDistinct old) (hn : KeysDistinct new)
    (r : String) (d : VDiff) (h : diffEnv (some (.dict old)) false (.dict new) = .changed r d) :
    ((functionEnvKeys.filter fun k => partChanged (.str k.toUTF8.toList) old new) = [] ∧ r = "environment changed") ∨
    ((functionEnvKeys.filter fun k => partChanged (.str k.toUTF8.toList) old new) ≠ [] ∧
     ∃ rs, joinReasons (functionEnvKeys.filter fun k => partChanged (.str k.toUTF8.toList) old new) = .ok rs ∧
      r = rs ++ " changed") := by
  revert h
  refine diffEnv_differ (motive := (· = .changed r d → _)) _ _ nofun nofun (fun _ => nofun) ?_
  rintro r' o n edits _ heq hd rfl hr h
  cases h
  have hd' : diffDepth envDepth (.dict old) (.dict new) = _ :=
    diffDepthWith_dict defaultRouteSize false (envDepth - 1) heq
  obtain ⟨es, hme, hv⟩ := map_eq_ok.mp (hd'.symm.trans hd)
  cases hv
  rw [List.filter_congr fun k _ => hasEdit_eq_partChanged ho hn hme (.str k.toUTF8.toList)] at hr
  exact hr

/-- C16, rebuild reason, the remaining outcomes of `diffEnv` (after the repair of D25): a target without a record
has never been run; equal encodings mean up to date, and nothing else does; when the encodings differ but the
two environments compare equal — no part differs by `==`, yet the function can tell them apart: `1` and `1.0`,
`0.0` and `-0.0`, one shared list and two equal lists — or cannot be compared within the depth limit, the
reason is the generic "environment changed" with no diff; a reason that is shown with a diff comes with a mapping
diff, and if that diff touches none of the `functionEnvKeys` the reason is the generic one (with the diff). -/
theorem C16_reason_cases (old new : Val) :
    diffEnv none false new = .neverRun ∧
    diffEnv (some old) true new = .same ∧
    (∀ se, diffEnv (some old) se new = .same → se = true) ∧
    (equalDepth envDepth old new = .ok true → diffEnv (some old) false new = .changedOpaque) ∧
    ((∃ e, equalDepth envDepth old new = .error e) → diffEnv (some old) false new = .changedOpaque) ∧
    (∀ r d, diffEnv (some old) false new = .changed r d →
      equalDepth envDepth old new = .ok false ∧
      ∃ o n edits, d = .mapping o n edits ∧
        ((functionEnvKeys.filter fun k => hasEdit (.str k.toUTF8.toList) edits) = [] → r = "environment changed")) := by
  refine ⟨rfl, rfl, ?_, ?_, ?_, ?_⟩
  · intro se
    cases se with
    | true => exact fun _ => rfl
    | false => exact fun h => absurd h (diffEnv_differ (motive := (· ≠ .same)) old new nofun nofun (fun _ => nofun)
        fun _ _ _ _ _ _ _ _ _ => nofun)
  · intro h; simp only [diffEnv, h]; rfl
  · rintro ⟨e, h⟩; simp only [diffEnv, h]; rfl
  · intro r d
    refine diffEnv_differ (motive := (· = .changed r d → _)) old new nofun nofun (fun _ => nofun) ?_
    rintro r' o n edits _ heq _ rfl hr h
    cases h
    exact ⟨heq, o, n, edits, rfl, fun hnil => hr.elim (·.2) (absurd hnil ·.1)⟩

/-! ### non-vacuity: concrete instances (evaluated by the kernel) -/

def vs (s : String) : Val := .str s.toUTF8.toList

/-- the hypotheses of `C16_faithful_values` hold for "abcab" / "acabb"; the script found is `= a, - b, = cab, + b`;
checked here: a sequence diff of four edits with the two values as sides -/
example : (match diff (vs "abcab") (vs "acabb") with
    | .ok (some (.slice o n es)) => o.beq (vs "abcab") && n.beq (vs "acabb") && es.length == 4
    | _ => false) = true := by decide +kernel
example : ((vs "abcab").elems?.isSome && decide ((vs "abcab").height ≤ 9 + 1) && decide ((9 : Nat) ≤ snakeDepth) &&
    (match equalDepth (9 + 1) (vs "abcab") (vs "acabb") with | .ok false => true | _ => false)) = true := by
  decide +kernel
/-- a nested value: a dict inside a list inside a tuple; the diff is a sequence diff whose replace carries a
mapping diff -/
example : (match diff (.tuple [vs "x", .list [.dict [(vs "k", vs "v")]]]) (.tuple [vs "x", .list [.dict [(vs "k", vs "w")]]]) with
    | .ok (some (.slice _ _ [.common _, .replace [some (.slice _ _ [.replace [some (.mapping _ _ [(_, .replace _)])]])]])) => true
    | _ => false) = true := by decide +kernel
/-- equal dicts in another insertion order: no diff -/
example : (match diff (.dict [(vs "a", vs "1"), (vs "b", vs "2")]) (.dict [(vs "b", vs "2"), (vs "a", vs "1")]) with
    | .ok none => true | _ => false) = true := by decide +kernel
/-- the depth limit: `DiffDepth` with depth 2 refuses two values nested three deep (`Diff` uses `CompareLimit = 10`) -/
example : (match diffDepth 2 (.tuple [.tuple [vs "a"]]) (.tuple [.tuple [vs "b"]]) with
    | .error .depth => true | _ => false) = true := by decide +kernel
/-- the restart path: with `routeSize = 1` the search restarts several times and the script is still found -/
example : (match diffDepthWith 1 false 10 (vs "abcabc") (vs "xbxcax") with
    | .ok (some (.slice _ _ es)) => es.length > 0 | _ => false) = true := by decide +kernel
/-- the reason of two environments that differ in their code and in a global -/
example : (match diffEnv (some (.dict [(vs "global values", vs "1"), (vs "code", vs "x"), (vs "names", vs "n")])) false
      (.dict [(vs "global values", vs "2"), (vs "code", vs "y"), (vs "names", vs "n")]) with
    | .changed r _ => r == "global values and code changed" | _ => false) = true := by decide +kernel
example : KeysDistinct [(.str [97], .str [49]), (.str [98], .str [50])] := by
  unfold KeysDistinct; decide +kernel

end Dawn.Diff
