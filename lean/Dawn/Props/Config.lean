import Dawn.Proofs.Config
import Dawn.Proofs.LabelPath
/-!
# C19 — project configuration round-trips through its file format

Property theorems, with the witnesses and examples they are instantiated on. `emit` is the model of `WriteConfigFile` (with go-toml v2's value encoder as used),
`parseSub` the model of `LoadConfigBytes` on the sub-language `emit` produces; both are tied to the source by
`Dawn/Ties/Config.lean` and by the correspondence streams `config.*`.
-/
namespace Dawn.Config

/-- C19: writing a valid configuration and loading it back yields the same configuration — for every project
name, project version and ignore entry (any byte strings: quotes, backslashes, control bytes, non-ASCII, empty),
every requirement name (including the empty one and names that need quoting), every canonical version and clean
path. `c.valid`: requirement versions canonical semver, requirement paths fixed points of `CleanPath`, the entries
of the requirements map listed in ascending order of their distinct names. -/
theorem C19_roundtrip (c : Config) (h : c.valid = true) : parseSub (emit c) = .ok c :=
  parseSub_emitWith mustQuote c h (fun _ _ hq => mustQuote_false hq)

/-- C19: writing the loaded configuration again produces identical bytes. -/
theorem C19_stable (c c' : Config) (h : c.valid = true) (hl : parseSub (emit c) = .ok c') : emit c' = emit c := by
  rw [C19_roundtrip c h] at hl
  cases hl; rfl

/-- what goes wrong without the repair of D12, in general: the old quoting rule is correct for every
configuration without an empty requirement name … -/
theorem C19_roundtrip_old_rule (c : Config) (h : c.valid = true) (hne : ∀ r ∈ c.reqs, r.key ≠ []) :
    parseSub (emitOld c) = .ok c :=
  parseSub_emitWith mustQuoteOld c h (fun r hr hq => ⟨hne r hr, mustQuoteOld_false hq⟩)

/-! ## `dawn get` and `dawn tidy` -/

/-- C19 "rewriting dawn.toml during get and tidy therefore loses nothing but comments and layout": the commands
load the file (giving some configuration `c`), replace the requirements by what the resolver returned (`r`) and write the result
(`rewrite`, tied to cmd/dawn/get.go and tidy.go by `Dawn/Ties/Config.lean` and run against the real commands by the
stream `config.rewrite`). Whatever the old file was, the new file loads, and what it loads agrees with the old
configuration on name, version and ignore list and has exactly the requirements `r` — provided `r` is valid
(canonical versions, clean paths, listed in key order; the old requirements do not matter). -/
theorem C19_rewrite_preserves (c : Config) (r : List Req) (hr : (rewrite c r).valid = true) :
    ∃ c', parseSub (emit (rewrite c r)) = .ok c' ∧
      c'.name = c.name ∧ c'.version = c.version ∧ c'.ignore = c.ignore ∧ c'.reqs = r :=
  ⟨rewrite c r, C19_roundtrip _ hr, rfl, rfl, rfl, rfl⟩

/-- the same about the files: the file the commands write loads to the old configuration with the new requirements -/
theorem C19_rewrite_file (text out : Bytes) (c : Config) (r : List Req) (hl : parseSub text = .ok c)
    (hs : sortedKeys r = true) (hr : (rewrite c r).valid = true) (hw : rewriteFile text r = .ok out) :
    parseSub out = .ok { c with reqs := r } := by
  unfold rewriteFile at hw
  rw [hl, sortReqs_sorted r hs] at hw
  cases hw
  exact C19_roundtrip _ hr

/-! ## `CleanPath` -/

/-- `CleanPath` is **not** idempotent in general: a version suffix `@v1` (or `@v0`, or an empty one) is dropped, and
what is left can again end in such a suffix. `a@v1@v1` cleans to `a@v1`, which cleans to `a`. (Reproduced on the
real code; such a path is not "in clean form", so it is outside C19's quantifier: a finding, not a violation.) -/
theorem C19_cleanpath_idem_counterexample :
    cleanPath [97, 64, 118, 49, 64, 118, 49] = [97, 64, 118, 49] ∧
    cleanPath [97, 64, 118, 49] = [97] ∧ cleanPath [97] = [97] := by decide +kernel

/-- C19_cleanpath_idem, the part that holds: `CleanPath(p)` is a fixed point of `CleanPath` — i.e. in the clean
form C19 quantifies over — whenever `p` carries a version suffix that is kept (`@v2`, `@v3`, …) or contains no `@`
at all. Missing from full idempotence: exactly the paths whose suffix is dropped (`@v0`, `@v1`, `@`) while the
rest still contains an `@` in its last element (the counterexample above). -/
theorem C19_cleanpath_idem_partial (p : Bytes)
    (h : keptVersion (splitPathVersion p).2 ∨ (64 : UInt8) ∉ p) :
    cleanPath (cleanPath p) = cleanPath p := by
  rcases h with h | h
  · rcases splitPathVersion_spec p with hs | ⟨p0, v, hs, rfl, h47, h64⟩
    · rw [hs] at h; exact absurd rfl h.1
    · rw [hs] at h
      rw [cleanPath_at p0 v h h47 h64, cleanPath_at _ v h h47 h64, Label.pathClean_idem]
  · have h' : (64 : UInt8) ∉ Label.pathClean p := fun hm => by
      rcases Label.mem_pathClean p 64 hm with h1 | h1 | h1
      · exact h h1
      · exact absurd h1 (by decide)
      · exact absurd h1 (by decide)
    rw [cleanPath_no_at p h, cleanPath_no_at _ h', Label.pathClean_idem]

/-- the configuration of D12: one requirement whose name is the empty string (`x`, `v1.0.0`) -/
def emptyNameConfig : Config := ⟨[], [], [], [⟨[], [120], [118, 49, 46, 48, 46, 48]⟩]⟩

/-- D12 (regression witness): with the quoting rule as it was, a valid configuration with an empty requirement
name is written as ` = {path = 'x', version = 'v1.0.0'}`, which is not in the language `LoadConfigBytes`
accepts; with the repaired rule it is written `'' = {…}` and loads back. -/
theorem C19_empty_name_counterexample :
    emptyNameConfig.valid = true ∧
    emitOld emptyNameConfig = tHeader ++ nl ++ [32, 61, 32, 123] ++ kPath ++ [32, 61, 32, 39, 120, 39, 44, 32] ++ kVersion ++
      [32, 61, 32, 39, 118, 49, 46, 48, 46, 48, 39, 125, 10] ∧
    parseSub (emitOld emptyNameConfig) = .error .outside ∧
    parseSub (emit emptyNameConfig) = .ok emptyNameConfig := by decide +kernel

/-! non-vacuity: a valid configuration with every feature (name `it's`, version, two ignore entries one of which
needs a basic string, three requirements: empty name, quoted name `a b`, bare name `b`; a pseudo-version and an
`@v2` path) -/
def sampleConfig : Config :=
  ⟨[105, 116, 39, 115], [118, 49], [[42, 46, 103, 111], [9, 10, 127]],
   [⟨[], [120, 47, 121], [118, 48, 46, 49, 46, 48, 45, 112, 114, 101, 46, 49]⟩,
    ⟨[97, 32, 98], [46], [118, 49, 46, 50, 46, 51]⟩,
    ⟨[98], [97, 47, 98, 64, 118, 50], [118, 50, 46, 48, 46, 48]⟩]⟩

example : sampleConfig.valid = true := by decide +kernel
example : parseSub (emit sampleConfig) = .ok sampleConfig := by decide +kernel
example : validate ⟨[], [], [], [⟨[107], [97], [118, 49]⟩]⟩ = .error .badVersion := by decide

/-! requirement paths whose last element has an `@` that is not followed by a major version are in clean form:
`x@dev`, `user@host/x`, `x@v03`, `a@b@c` (valid, and they round-trip); `x@v1` and `x@` are not -/
example : (⟨[], [], [], [⟨[97], [120, 64, 100, 101, 118], [118, 49, 46, 48, 46, 48]⟩,
    ⟨[98], [117, 115, 101, 114, 64, 104, 111, 115, 116, 47, 120], [118, 49, 46, 48, 46, 48]⟩,
    ⟨[99], [120, 64, 118, 48, 51], [118, 49, 46, 48, 46, 48]⟩,
    ⟨[100], [97, 64, 98, 64, 99], [118, 49, 46, 48, 46, 48]⟩]⟩ : Config).valid = true := by decide +kernel
example : cleanPath [120, 64, 118, 49] = [120] ∧ cleanPath [120, 64] = [120] ∧
    cleanPath [120, 64, 100, 101, 118] = [120, 64, 100, 101, 118] := by decide +kernel

/-! non-vacuity of `C19_rewrite_preserves`: the sample file, rewritten with one requirement `lib → x@dev v1.0.0` -/
example : ∃ c', parseSub (emit (rewrite sampleConfig [⟨[108, 105, 98], [120, 64, 100, 101, 118], [118, 49, 46, 48, 46, 48]⟩])) = .ok c' ∧
    c'.name = sampleConfig.name ∧ c'.ignore = sampleConfig.ignore ∧ c'.reqs.length = 1 :=
  ⟨_, C19_roundtrip _ (by decide +kernel), rfl, rfl, rfl⟩

end Dawn.Config
