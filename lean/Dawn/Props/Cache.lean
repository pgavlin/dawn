import Dawn.Proofs.Cache
/-!
# C20 — `Cache.once` computes each key at most once under concurrency

The property theorems, and at the end reachable states that meet their hypotheses. `next` is the model of `cache.get`/`cache.once` (/repo/cache.go; tied to the source by
`Dawn/Ties/Cache.lean` and by the trace streams `cache.sched`, `cache.stress` validated by `drv_cache`).
`Reachable s`: `s` is reached by *some* interleaving of *some* family of caller programs — any number of
threads, any keys, any number of calls per thread, every call's callable succeeding with any value or failing.
Ghost observations: `okCalls k` (results of the successful invocations of callables for `k`), `failCalls k`,
`rets` (every return of `once`: thread, key, `some value` or `none` for the callable's error).
-/
namespace Dawn.Cache

/-- C20, at most once: among the invocations that succeed, at most one per key — in every reachable state. -/
theorem C20_once {s : State} (h : Reachable s) (k : Key) : (s.okCalls k).length ≤ 1 := by
  have inv := inv_reachable h
  cases hc : s.okCalls k with
  | nil => simp
  | cons v l => have := (inv.once.calls_ent k v l hc).1; subst this; simp

/-- C20, same value: any two successful returns of `once` for a key carry the same value, and it is the
result of the one successful invocation, which is what the cache holds. -/
theorem C20_same_value {s : State} (h : Reachable s) {t t' : Tid} {k : Key} {v v' : Val}
    (h1 : (t, k, some v) ∈ s.rets) (h2 : (t', k, some v') ∈ s.rets) :
    v = v' ∧ s.okCalls k = [v] ∧ s.entries k = some v := by
  have inv := inv_reachable h
  have e1 : s.entries k = some v := inv.thr.returned _ _ _ h1
  have e2 : s.entries k = some v' := inv.thr.returned _ _ _ h2
  rw [e1] at e2
  exact ⟨by cases e2; rfl, inv.once.ent_calls _ _ e1, e1⟩

/-- C20, a failing call caches nothing: the cache holds a value for `k` only if a callable *succeeded* for `k`
(with exactly that value) — so as long as every invocation for `k` has failed, however many, `k` is absent;
and `once` returns an error only when a callable for that key has failed. -/
theorem C20_fail_caches_nothing {s : State} (h : Reachable s) (k : Key) :
    (s.okCalls k = [] → s.entries k = none) ∧
    (∀ v, s.entries k = some v → s.okCalls k = [v]) ∧
    (∀ t, (t, k, none) ∈ s.rets → 1 ≤ s.failCalls k) := by
  have inv := inv_reachable h
  refine ⟨?_, inv.once.ent_calls k, fun t ht => inv.thr.returned t k none ht⟩
  intro h0
  cases he : s.entries k with
  | none => rfl
  | some v => have := inv.once.ent_calls k v he; rw [h0] at this; cases this

/-- the step that fails leaves the cache exactly as it was -/
theorem C20_failing_step_keeps_entries {s s' : State} {t : Tid} {op : Op} {rest : List Op}
    (hp : s.prog t = op :: rest) (hpc : s.pc t = .miss) (hf : op.out = .fail) (hn : next s t = some s') :
    s'.entries = s.entries ∧ s'.pc t = .holding none := by
  simp only [next, hp, hpc, hf] at hn
  cases hn
  simp

/-- C20, the call is made only under the writer lock after a miss: while a thread is at / inside the call,
the lock is write-held, nobody holds a read lock, no other thread is in the critical section, and the
key is absent. -/
theorem C20_call_exclusive {s : State} (h : Reachable s) {t : Tid} {op : Op} {rest : List Op}
    (hp : s.prog t = op :: rest) (hpc : s.pc t = .miss ∨ ∃ v, s.pc t = .callok v) :
    s.writer = true ∧ s.readers = 0 ∧ s.entries op.key = none ∧ ∀ t', inW (s.pc t') = true → t' = t := by
  have inv := inv_reachable h
  have hw : inW (s.pc t) = true := by
    rcases hpc with h | ⟨v, h⟩ <;> simp [h, inW]
  have hwr := inv.lock.wflag t hw
  refine ⟨hwr, ?_, ?_, fun t' ht' => inv.lock.wuniq t' t ht' hw⟩
  · rw [inv.lock.rcount, inv.lock.excl hwr]; rfl
  · have hk := inv.thr.knows t op rest hp
    rcases hpc with h | ⟨v, h⟩ <;> rw [h] at hk
    · exact hk
    · exact hk.1

/-- C20, retry: when every invocation for `k` so far has failed (any number of them), the lock is free and
thread `t` is about to call `once(k, f)` with `f` succeeding with `v`, then that call invokes `f`, returns
`v`, and `v` is cached. -/
theorem C20_retry_possible {s : State} (h : Reachable s) {t : Tid} {k : Key} {v : Val} {rest : List Op}
    (hcalls : s.okCalls k = []) (hw : s.writer = false) (hr : s.readers = 0)
    (hpc : s.pc t = .start) (hp : s.prog t = ⟨k, .ok v⟩ :: rest) :
    ∃ s', Steps s s' ∧ s'.rets = (t, k, some v) :: s.rets ∧ s'.okCalls k = [v] ∧ s'.entries k = some v
      ∧ s'.prog t = rest := by
  have he : s.entries k = none := (C20_fail_caches_nothing h k).1 hcalls
  -- nine steps of `t` alone: the nine statements of the slow path, `start → … → retv → start`
  have hrun : ∃ s', run s [t, t, t, t, t, t, t, t, t] = some s' ∧ s'.rets = (t, k, some v) :: s.rets ∧
      s'.okCalls k = [v] ∧ s'.entries k = some v ∧ s'.prog t = rest := by
    simp [run, next, hp, hpc, hw, hr, he, hcalls, afterGet, afterRecheck]
  obtain ⟨s', h1, h2⟩ := hrun
  exact ⟨s', steps_of_run h1, h2⟩

/-- C20, no deadlock among callers (the callables themselves do not re-enter the cache): in every reachable
state in which some thread still has a call to make or finish, some thread can take a step. -/
theorem C20_deadlock_free {s : State} (h : Reachable s) (t : Tid) (hp : s.prog t ≠ []) :
    ∃ t' s', next s t' = some s' := by
  have inv := inv_reachable h
  -- a thread inside a critical section has a call in progress and is not at a lock acquisition
  have hold : ∀ t', (inW (s.pc t') = true ∨ inR (s.pc t') = true) → ∃ s', next s t' = some s' := fun t' hin =>
    next_enabled (inv.thr.active t' fun h0 => by simp [h0, inW, inR] at hin)
      (fun h0 => by simp [h0, inW, inR] at hin) (fun h0 => by simp [h0, inW, inR] at hin)
  cases hw : s.writer with
  | true =>
    obtain ⟨t', ht'⟩ := inv.lock.wsome hw
    exact ⟨t', hold t' (.inl ht')⟩
  | false =>
    cases hrs : s.rset with
    | cons t' l => exact ⟨t', hold t' (.inr ((inv.lock.rmem t').2 (by simp [hrs])))⟩
    | nil => exact ⟨t, next_enabled hp (fun _ => hw) fun _ => ⟨hw, by rw [inv.lock.rcount, hrs]; rfl⟩⟩

/-- C20, nothing is forgotten: an entry, once present, stays with its value through every later step of every thread —
however many keys the cache holds (the model has no capacity because none may exist: `no_eviction_ok`), and whatever any
other cache does (a cache's state is its own value: `no_shared_state_ok`, `cache_fields_ok`). -/
theorem C20_entries_monotone {s s' : State} (h : Reachable s) (hs : Steps s s') {k : Key} {v : Val}
    (he : s.entries k = some v) : s'.entries k = some v := by
  induction hs with
  | refl => exact he
  | tail hst st ih =>
    obtain ⟨t, ht⟩ := st
    exact (next_spec (inv_steps (inv_reachable h) hst) ht).2 k v ih

/-- C20, freezing does not matter: `Freeze` — which Starlark applies to a module-level cache before any target body
runs — leaves the state as it is, so every theorem above holds for frozen caches exactly as for fresh ones: a frozen
cache still stores what it computes, later callers still get that value without recomputing. (The abstraction rests on
`(*cache).Freeze` being a no-op and on the struct having no further state: `freeze_is_noop_ok`, `cache_fields_ok`.) -/
theorem C20_freeze_irrelevant (s : State) :
    freeze s = s ∧ (Reachable s → Reachable (freeze s)) ∧ (∀ t, next (freeze s) t = next s t) :=
  ⟨rfl, id, fun _ => rfl⟩

/-! ## Non-vacuity: concrete reachable states exhibiting the hypotheses -/

/-- three callers: thread 0 fails for key 0 and retries with 5, thread 1 asks key 0 with 7, thread 2 key 1 failing -/
def exProg : Tid → List Op
  | 0 => [⟨0, .fail⟩, ⟨0, .ok 5⟩]
  | 1 => [⟨0, .ok 7⟩]
  | 2 => [⟨1, .fail⟩]
  | _ => []

/-- thread 0 fails first; thread 1 then computes 7; thread 0's retry and nobody else computes again -/
def exSched : List Tid :=
  [0, 1, 0, 1, 0, 1, 0, 0, 0, 0, 0,       -- both miss on the fast path; 0 locks, misses, fails, unlocks, returns the error
   1, 1, 1, 1, 1, 1,                      -- 1 locks, re-checks (still absent: the failure cached nothing), calls, stores 7
   0, 0, 0, 0,                            -- 0 retries: fast path hit, returns 7 without calling
   2, 2, 2, 2, 2, 2, 2, 2]                -- 2 fails for key 1

theorem run_reachable {prog : Tid → List Op} {sched : List Tid} {s : State}
    (h : run (init prog) sched = some s) : Reachable s := ⟨prog, steps_of_run h⟩

example : ∃ s, Reachable s ∧ s.okCalls 0 = [7] ∧ s.failCalls 0 = 1 ∧ s.failCalls 1 = 1 ∧ s.entries 1 = none ∧
    s.rets = [(2, 1, none), (0, 0, some 7), (1, 0, some 7), (0, 0, none)] :=
  exists_of_run (prog := exProg) (sched := exSched) (by decide)

/-- the hypotheses of `C20_retry_possible` are met by a reachable state -/
example : ∃ s, Reachable s ∧ s.okCalls 0 = [] ∧ s.failCalls 0 = 1 ∧ s.writer = false ∧ s.readers = 0 ∧
    s.pc 1 = .start ∧ s.prog 1 = [⟨0, .ok 7⟩] :=
  exists_of_run (prog := exProg) (sched := [0, 0, 0, 0, 0, 0, 0, 0]) (by decide)

/-- so are those of `C20_call_exclusive`, while another thread is blocked at the lock -/
example : ∃ s, Reachable s ∧ s.pc 1 = .callok 7 ∧ s.pc 0 = .wlock ∧ next s 0 = none :=
  exists_of_run (prog := exProg) (sched := [0, 1, 0, 1, 0, 1, 1, 1, 1]) (by decide)

end Dawn.Cache
