import Dawn.Props.Loader
import Dawn.Props.Build
/-!
# C06 discharges "for every order in which packages and modules happen to load" of C02

`Dawn/Props/Build.lean` (C01, C02, C03, C13, C14) takes the result of loading a project as an abstract `Build.Tree`
(`defs`: the definition registered under each label, `labels`: what a full load puts into `proj.targets`) and proves its
theorems per tree. Here the tree is obtained from a *terminal state of the loader model* and shown not to depend on the
interleaving of the per-package loader goroutines.

* `D m` is the list of targets (label, definition) module `m` registers when its body is executed (`target(...)`,
  `glob`/source registrations): an abstract parameter. No step of the loader model reads it — what a module registers is
  a function of the module's own file and of the values it `load`s, which are the same in every load
  (`C06_deterministic`: the same modules are executed, once each, with the same results).
* `treeOf D N s`: the targets registered by the modules below `N` that finished without error in `s`, in module order.
  (`proj.targets` is a Go map; its iteration order is not part of the tree. Two modules registering the same label is the
  "duplicate target" load error, outside this link: `lookup` then keeps the first.)
* Scope: acyclic projects none of whose modules is broken (`NoBroken`) — the projects that load at all (`C06_acyclic_ok`);
  otherwise `Load` fails and no build takes place (`C06_cycle_reported`, `C06_unfetchable_reported`).
-/
namespace Dawn.Link
open Dawn

/-- the module's body was executed to the end without error -/
def executedOk (s : Loader.State) (m : Loader.Mod) : Bool := s.loaded m && s.result m == .ok

/-- everything the successfully executed modules below `N` registered, in module order -/
def registered (D : Loader.Mod → List (Build.Label × Build.Def)) (N : Nat) (s : Loader.State) :
    List (Build.Label × Build.Def) :=
  ((List.range N).filter (executedOk s)).flatMap D

/-- the `Build.Tree` a finished load leaves behind -/
def treeOf (D : Loader.Mod → List (Build.Label × Build.Def)) (N : Nat) (s : Loader.State) : Build.Tree :=
  { defs := fun l => (registered D N s).lookup l, labels := (registered D N s).map Prod.fst }

/-- two finished loads of the same project executed the same modules successfully -/
theorem executedOk_unique {P : Loader.Project} (hac : Loader.Acyclic P) (hnb : Loader.NoBroken P) {s₁ s₂ : Loader.State}
    (h₁ : Loader.Reachable .fixed P s₁) (h₂ : Loader.Reachable .fixed P s₂)
    (t₁ : Loader.Terminal P s₁) (t₂ : Loader.Terminal P s₂) : executedOk s₁ = executedOk s₂ := by
  funext m
  have := Loader.C06_deterministic hac hnb h₁ h₂ t₁ t₂ m
  simp only [executedOk, this.1, this.2.1]

/-- C06 → C02, the tree is unique: whatever the two interleavings of the loader goroutines were, two complete loads of
the same project (acyclic, every module fetchable) leave the same `Build.Tree`. -/
theorem C06_tree_unique {P : Loader.Project} (hac : Loader.Acyclic P) (hnb : Loader.NoBroken P)
    (D : Loader.Mod → List (Build.Label × Build.Def)) (N : Nat) {s₁ s₂ : Loader.State}
    (h₁ : Loader.Reachable .fixed P s₁) (h₂ : Loader.Reachable .fixed P s₂)
    (t₁ : Loader.Terminal P s₁) (t₂ : Loader.Terminal P s₂) : treeOf D N s₁ = treeOf D N s₂ := by
  simp only [treeOf, registered, executedOk_unique hac hnb h₁ h₂ t₁ t₂]

/-- … and it is the tree of exactly the modules the project reaches: a module below the bound contributes its targets iff
it is the BUILD file of a package or is loaded, directly or indirectly, from one. -/
theorem C06_tree_modules {P : Loader.Project} (hac : Loader.Acyclic P) (hnb : Loader.NoBroken P) {s : Loader.State}
    (h : Loader.Reachable .fixed P s) (ht : Loader.Terminal P s) (m : Loader.Mod) :
    executedOk s m = true ↔ Loader.Reach P m := by
  have a := Loader.C06_acyclic_ok hac hnb h ht
  constructor
  · intro he
    apply Classical.byContradiction
    intro hn
    have := (a.2.2 m hn).1
    simp [executedOk, this] at he
  · intro hr
    simp [executedOk, (a.2.1 m hr).1, a.1 m]

/-- C02, load order independence, in the incremental engine's vocabulary: everything the `Build` model computes from the
loaded project — the evaluation order of a request, a build (`runBuild`: final world, memo, events, executions, steps),
the records a load writes, garbage collection — is the same after any two complete loads of the project. So
`C02_rebuild`, `C02_no_spurious`, `C01_never_stale`, … , which hold for every `Tree`, hold "for every order in which
packages and modules happen to load". -/
theorem C02_load_order_independent {P : Loader.Project} (hac : Loader.Acyclic P) (hnb : Loader.NoBroken P)
    (D : Loader.Mod → List (Build.Label × Build.Def)) (N : Nat) {s₁ s₂ : Loader.State}
    (h₁ : Loader.Reachable .fixed P s₁) (h₂ : Loader.Reachable .fixed P s₂)
    (t₁ : Loader.Terminal P s₁) (t₂ : Loader.Terminal P s₂) :
    (∀ (Pb : Build.Params) (o : Build.Opts) (ord : List Build.Label) (w : Build.World),
      Build.runBuild Pb (treeOf D N s₁) o ord w = Build.runBuild Pb (treeOf D N s₂) o ord w) ∧
    (∀ root, Build.order (treeOf D N s₁) root = Build.order (treeOf D N s₂) root) ∧
    (∀ w, Build.load (treeOf D N s₁) w = Build.load (treeOf D N s₂) w) ∧
    (∀ pi w, Build.gc (treeOf D N s₁) pi w = Build.gc (treeOf D N s₂) pi w) ∧
    (∀ l d, Build.depsOf (treeOf D N s₁) l d = Build.depsOf (treeOf D N s₂) l d) := by
  rw [C06_tree_unique hac hnb D N h₁ h₂ t₁ t₂]
  exact ⟨fun _ _ _ _ => rfl, fun _ => rfl, fun _ => rfl, fun _ _ => rfl, fun _ _ => rfl⟩

/-- any observation whatsoever of the tree -/
theorem C02_load_order_independent_any {α : Sort _} (F : Build.Tree → α) {P : Loader.Project} (hac : Loader.Acyclic P)
    (hnb : Loader.NoBroken P) (D : Loader.Mod → List (Build.Label × Build.Def)) (N : Nat) {s₁ s₂ : Loader.State}
    (h₁ : Loader.Reachable .fixed P s₁) (h₂ : Loader.Reachable .fixed P s₂)
    (t₁ : Loader.Terminal P s₁) (t₂ : Loader.Terminal P s₂) : F (treeOf D N s₁) = F (treeOf D N s₂) := by
  rw [C06_tree_unique hac hnb D N h₁ h₂ t₁ t₂]

/-! ## Non-vacuity: the D4 project, two different interleavings, one tree -/

/-- every module registers one function target named after it, depending on the targets of what it loads -/
def exD : Loader.Mod → List (Build.Label × Build.Def) := fun m =>
  [(m, { kind := .fn, deps := Loader.sharedHelper.loads m, reads := [], gens := [], env := m, always := false, path := 0 })]

example : ∃ s₁ s₂, Loader.Reachable .fixed Loader.sharedHelper s₁ ∧ Loader.Reachable .fixed Loader.sharedHelper s₂ ∧
    Loader.Terminal Loader.sharedHelper s₁ ∧ Loader.Terminal Loader.sharedHelper s₂ ∧
    s₁.ptime 0 ≠ s₂.ptime 0 ∧ (treeOf exD 4 s₁).labels = [0, 1, 2, 3] ∧ treeOf exD 4 s₁ = treeOf exD 4 s₂ := by
  -- goroutine 0 first / goroutine 1 first
  obtain ⟨a, ra, ta, pa, la⟩ := Loader.reachable_of_run (v := .fixed) (P := Loader.sharedHelper)
    (sched := Loader.sharedHelperSchedule ++ [1, 1, 1, 0, 0, 0, 1, 1, 1, 1, 1, 0, 0, 0, 0])
    (p := fun a => Loader.Terminal Loader.sharedHelper a ∧ a.ptime 0 = 0 ∧ (treeOf exD 4 a).labels = [0, 1, 2, 3])
    (by decide)
  obtain ⟨b, rb, tb, pb⟩ := Loader.reachable_of_run (v := .fixed) (P := Loader.sharedHelper)
    (sched := List.replicate 20 1 ++ List.replicate 13 0)
    (p := fun b => Loader.Terminal Loader.sharedHelper b ∧ b.ptime 0 = 5) (by decide)
  exact ⟨a, b, ra, rb, ta, tb, by rw [pa, pb]; decide, la,
    C06_tree_unique Loader.sharedHelper_acyclic Loader.sharedHelper_noBroken exD 4 ra rb ta tb⟩

end Dawn.Link
