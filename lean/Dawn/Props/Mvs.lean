import Dawn.Proofs.MvsFuel
import Dawn.Proofs.MvsRef
/-!
# C10 — the resolved build list is the minimal-version-selection solution

Property theorems, with the witnesses and examples they are instantiated on. `BuildList` is the model of dawn's `mvs.BuildList` (`internal/mvs/get.go`) on top of the
model of `github.com/pgavlin/mvs`'s `buildList` (tied to the sources by `Dawn/Ties/Mvs.lean` and by the
correspondence streams `mvs.buildlist`, `mvs.semver`); `UReach` is reachability through requirements in the
universe, written without reference to any algorithm; `Ver.le` is semantic-version precedence.
The download cache is not an input of the model: `Env.summary` is what a fetched `dawn.toml` says, however it was
obtained (the harness compares cold, disk-warm and memory-warm resolvers on the code).
-/
namespace Dawn.Mvs

/-- C10, exactness: a project is in the resolved build list, at version `v`, iff `v` is the highest version of that
project demanded by any requirement reachable from the project file. Any graph shape; `fuel` only has to be enough
for the exploration to finish (otherwise the model answers `Err.fuel`, never a list). -/
theorem C10_exact (e : Env) (c : Config) (fuel : Nat) (bl : List Mod)
    (hwf : WellFormed e (c.map (·.2))) (h : BuildList fuel e c = .ok bl) (p : String) (v : Ver) (hp : p ≠ "") :
    (⟨p, v⟩ : Mod) ∈ bl ↔
      UReach e (c.map (·.2)) ⟨p, v⟩ ∧ ∀ w, UReach e (c.map (·.2)) ⟨p, w⟩ → Ver.le w v := by
  unfold BuildList at h
  rw [buildList_dawn_mem hwf h]
  exact or_iff_right fun e => hp (congrArg Mod.path e)

/-- the one other entry of the list is the main project itself (`"" ↦ ""`, dropped when build lists are compared, §4) -/
theorem C10_root_entry (e : Env) (c : Config) (fuel : Nat) (bl : List Mod)
    (hwf : WellFormed e (c.map (·.2))) (h : BuildList fuel e c = .ok bl) (v : Ver) :
    (⟨"", v⟩ : Mod) ∈ bl ↔ v = .root := by
  unfold BuildList at h
  rw [buildList_dawn_mem hwf h]
  constructor
  · rintro (e | ⟨h1, _⟩)
    · exact congrArg Mod.ver e
    · exact absurd rfl (ureach_ok hwf h1).1
  · rintro rfl; exact Or.inl rfl

/-- C10, each once: no project appears twice in the build list (a fortiori not at two versions). Several major
versions of one project are different paths (`p` and `p@v2`) and may both appear. -/
theorem C10_once (e : Env) (c : Config) (fuel : Nat) (bl : List Mod) (h : BuildList fuel e c = .ok bl) :
    (bl.map (·.path)).Nodup :=
  buildListWith_nodup h

/-- C10, order independence: two project files that list the same requirements (in any order, under any names, with
repetitions) against universes whose `dawn.toml` files declare the same requirements in any order resolve to the
SAME list — whatever the order in which the worklist was processed and whatever fuel each run had. -/
theorem C10_order (e1 e2 : Env) (c1 c2 : Config) (f1 f2 : Nat) (bl1 bl2 : List Mod)
    (hroots : ∀ m, m ∈ c1.map (·.2) ↔ m ∈ c2.map (·.2))
    (hsum : ∀ n, (e1.summary n).isSome = (e2.summary n).isSome ∧
      ∀ s1 s2, e1.summary n = some s1 → e2.summary n = some s2 → ∀ m, m ∈ s1.reqs ↔ m ∈ s2.reqs)
    (h1 : BuildList f1 e1 c1 = .ok bl1) (h2 : BuildList f2 e2 c2 = .ok bl2) : bl1 = bl2 := by
  unfold BuildList buildList at h1 h2
  refine buildListWith_congr (fun n m => ?_) h1 h2
  rw [edges_plain, edges_plain]
  by_cases hv : n.ver ≠ .none
  · rw [if_pos hv, if_pos hv]
    simp only [dawnReqs]
    by_cases hp : n.path = ""
    · simp only [hp, ↓reduceIte, Option.getD_some]; exact hroots m
    · simp only [hp, ↓reduceIte]
      obtain ⟨hs1, hs2⟩ := hsum n
      cases ha : e1.summary n with
      | none =>
        cases hb : e2.summary n with
        | none => simp
        | some s2 => rw [ha, hb] at hs1; simp at hs1
      | some s1 =>
        cases hb : e2.summary n with
        | none => rw [ha, hb] at hs1; simp at hs1
        | some s2 => simp only [Option.map_some, Option.getD_some]; exact hs2 s1 s2 ha hb m
  · simp [hv]

/-- C10, the exploration terminates (fuel sufficiency): in a finite universe `U` of modules that contains the main
project and is closed under requirements, `BuildList` answers — a list or an error, never `Err.fuel` — as soon as the
fuel reaches `1 + Σ_{n ∈ U} (1 + number of requirements of n)`. Together with `C10_exact` this is total correctness. -/
theorem C10_fuel (e : Env) (c : Config) (U : List Mod) (hroot : rootMod ∈ U)
    (hU : ∀ n ∈ U, ∀ m ∈ edges (dawnReqs e (c.map (·.2))) .none n, m ∈ U) (fuel : Nat)
    (hf : 1 + (U.map fun n => 1 + (edges (dawnReqs e (c.map (·.2))) .none n).length).sum ≤ fuel) :
    BuildList fuel e c ≠ .error .fuel :=
  buildListWith_fuel _ _ rootMod U hroot hU fuel hf

/-! ### non-vacuity: a universe with a diamond, a cycle and two majors of one project -/

/- the concrete runs below are compared by `decide +kernel` (the elaborator's own evaluation, `rfl`, is many times slower):
that needs equality of outcomes to be decidable -/
deriving instance DecidableEq for Except

namespace Example

def v (a b c : Nat) : Ver := .sv ⟨a, b, c, []⟩

/-- a v1.0.0 → b, c ; b → d v1.0.0, d@v2 v2.0.0 ; c → d v1.1.0 ; d v1.1.0 → a v1.0.0 (a cycle) -/
def summary : Mod → Option Summary
  | ⟨"a", .sv ⟨1, 0, 0, []⟩⟩ => some ⟨"", [⟨"b", v 1 0 0⟩, ⟨"c", v 1 0 0⟩]⟩
  | ⟨"b", .sv ⟨1, 0, 0, []⟩⟩ => some ⟨"", [⟨"d", v 1 0 0⟩, ⟨"d@v2", v 2 0 0⟩]⟩
  | ⟨"c", .sv ⟨1, 0, 0, []⟩⟩ => some ⟨"", [⟨"d", v 1 1 0⟩]⟩
  | ⟨"d", .sv ⟨1, 0, 0, []⟩⟩ => some ⟨"", []⟩
  | ⟨"d", .sv ⟨1, 1, 0, []⟩⟩ => some ⟨"", [⟨"a", v 1 0 0⟩]⟩
  | ⟨"d@v2", .sv ⟨2, 0, 0, []⟩⟩ => some ⟨"", []⟩
  | _ => .none

/-- the same files with every requirement list written in the other order -/
def summary' : Mod → Option Summary
  | ⟨"a", .sv ⟨1, 0, 0, []⟩⟩ => some ⟨"", [⟨"c", v 1 0 0⟩, ⟨"b", v 1 0 0⟩]⟩
  | ⟨"b", .sv ⟨1, 0, 0, []⟩⟩ => some ⟨"", [⟨"d@v2", v 2 0 0⟩, ⟨"d", v 1 0 0⟩]⟩
  | m => summary m

def env : Env := ⟨"r", summary, [], "main", fun _ _ => .none⟩
def env' : Env := ⟨"r", summary', [], "main", fun _ _ => .none⟩
def cfg : Config := [("a", ⟨"a", v 1 0 0⟩)]

/-- the hypotheses of `C10_exact` / `C10_once` / `C10_order` hold here, and the answer is the expected one -/
example : BuildList 50 env cfg =
    .ok [rootMod, ⟨"a", v 1 0 0⟩, ⟨"b", v 1 0 0⟩, ⟨"c", v 1 0 0⟩, ⟨"d", v 1 1 0⟩, ⟨"d@v2", v 2 0 0⟩] := by rfl

example : BuildList 50 env' cfg = BuildList 50 env cfg := by decide +kernel

/-- too little fuel is reported as such, not as a list -/
example : BuildList 3 env cfg = .error .fuel := by rfl

/-- the hypotheses of `C10_fuel`: the seven modules above are a closed universe; the bound is 1 + 7 + 7 edges = 15 -/
def U : List Mod :=
  [rootMod, ⟨"a", v 1 0 0⟩, ⟨"b", v 1 0 0⟩, ⟨"c", v 1 0 0⟩, ⟨"d", v 1 0 0⟩, ⟨"d", v 1 1 0⟩, ⟨"d@v2", v 2 0 0⟩]
example : BuildList 15 env cfg ≠ .error .fuel := C10_fuel env cfg U (by decide) (by decide) 15 (by decide)

end Example

/-!
# C11 — requirement edits keep the requirement graph consistent

`Get`, `Tidy`, `UpgradeAll` are the models of dawn's functions of the same names (`internal/mvs/get.go`), all three
`transformReqs` around an operation of `github.com/pgavlin/mvs` followed by `ReqList`; tied to the sources by
`Dawn/Ties/MvsEdit.lean` and by the correspondence stream `mvs.edit`. Hypotheses that recur:
`WellFormed e roots` — what `LoadConfigBytes` guarantees of every project file (paths non-empty, versions canonical);
`(c.map (·.1)).Nodup` — a project file is a map: no name twice. `fuel` arguments only have to be large enough for the
runs that are assumed to succeed (partial correctness; `Err.fuel` is an outcome of the model, not an answer).
-/

/-- C11, tidy: the requirements `Tidy` returns resolve to the same build list as the original ones — the very same
list, whatever fuel each run had. -/
theorem C11_tidy (e : Env) (c c' : Config) (fuel fuel0 fuel' : Nat) (bl bl' : List Mod)
    (hwf : WellFormed e (c.map (·.2))) (ht : Tidy fuel e c = .ok c')
    (hbl : BuildList fuel0 e c = .ok bl) (hbl' : BuildList fuel' e c' = .ok bl') : bl' = bl :=
  tidy_preserves e c c' fuel fuel0 fuel' bl bl' hwf ht hbl hbl'

/-- C11, upgrading one project (`get p@q` with any query that resolves to `version`, when the current build list does
not have `p` above `version`: add, no-op or upgrade): the new requirements' build list has `p` at the resolved version
or above, and every project of the old build list at its old version or above. Nothing is lowered, nothing disappears. -/
theorem C11_upgrade (e : Env) (c c' : Config) (q : String) (fuel fuel' : Nat) (bl bl' : List Mod) (version : Mod)
    (hwf : WellFormed e (c.map (·.2))) (hget : Get fuel e c q = .ok c') (hbl : BuildList fuel e c = .ok bl)
    (hres : resolveVersionQuery e bl (parseVersionQuery q) = .ok version) (hver : okReq version)
    (hup : ∀ cur ∈ bl, cur.path = version.path → semverCompare cur.ver version.ver ≠ .gt)
    (hbl' : BuildList fuel' e c' = .ok bl') :
    (∃ v, (⟨version.path, v⟩ : Mod) ∈ bl' ∧ Ver.le version.ver v) ∧
    (∀ m ∈ bl, ∃ v, (⟨m.path, v⟩ : Mod) ∈ bl' ∧ Ver.le m.ver v) :=
  get_upgrade hwf hget hbl hres hver hup hbl'

/-- C11, upgrading one project, exact form: "contains the resolved version" holds literally — the new build list has
`p` at exactly the resolved version — whenever the resolved version does not itself (transitively) require a newer
version of `p`. (When it does, `C11_upgrade` still gives "at or above"; that case is the known finding D15b.) -/
theorem C11_upgrade_exact (e : Env) (c c' : Config) (q : String) (fuel fuel' : Nat) (bl bl' : List Mod) (version : Mod)
    (hwf : WellFormed e (c.map (·.2))) (hget : Get fuel e c q = .ok c') (hbl : BuildList fuel e c = .ok bl)
    (hres : resolveVersionQuery e bl (parseVersionQuery q) = .ok version) (hver : okReq version)
    (hup : ∀ cur ∈ bl, cur.path = version.path → semverCompare cur.ver version.ver ≠ .gt)
    (hself : ∀ w, UReach e [version] ⟨version.path, w⟩ → Ver.le w version.ver)
    (hbl' : BuildList fuel' e c' = .ok bl') : version ∈ bl' :=
  get_upgrade_exact hwf hget hbl hres hver hup hself hbl'

/-- C11, upgrading all projects: every project of the old build list is in the new one at the version `Reqs.Upgrade`
resolves for it (its newest tag of the same major version) or above, and at its old version or above. -/
theorem C11_upgrade_all (e : Env) (c c' : Config) (fuel fuel' : Nat) (bl bl' : List Mod)
    (hwf : WellFormed e (c.map (·.2))) (htags : ∀ t ∈ e.tags, okReq t)
    (h : UpgradeAll fuel e c = .ok c') (hbl : BuildList fuel e c = .ok bl) (hbl' : BuildList fuel' e c' = .ok bl') :
    ∀ m ∈ bl, ∃ v, (⟨m.path, v⟩ : Mod) ∈ bl' ∧ Ver.le m.ver v ∧ ∀ u, upgradeLatest e m = some u → Ver.le u.ver v :=
  upgradeAll_dominates hwf h hbl hbl'

/-- C11, names (every edit is `transformReqs` around an operation that returned `nv`): no name is used twice; a project
that is still required keeps each of its names; every entry of the result is an old name still on its old project, or
a (single, by the first clause unique) name for a project that had none. -/
theorem C11_names (e : Env) (c c' : Config) (tx : List Mod → Except Err (List Mod)) (nv : List Mod)
    (h : transformReqs e c tx = .ok c') (htx : tx (c.map (·.2)) = .ok nv) (hnd : (c.map (·.1)).Nodup) :
    (c'.map (·.1)).Nodup ∧
    (∀ n r, (n, r) ∈ c → (∃ v ∈ nv, v.path = r.path ∧ v.path ≠ "") → ∃ v, (n, v) ∈ c' ∧ v.path = r.path) ∧
    (∀ n v, (n, v) ∈ c' → (∃ r, (n, r) ∈ c ∧ r.path = v.path) ∨ (v ∈ nv ∧ ¬ ∃ o ∈ c, o.2.path = v.path)) :=
  transformReqs_names h htx hnd

/-- C11, repeating tidy changes nothing -/
theorem C11_idem_tidy (e : Env) (c c' c'' : Config) (fuel fuel' : Nat)
    (hwf : WellFormed e (c.map (·.2))) (hnames : (c.map (·.1)).Nodup)
    (h1 : Tidy fuel e c = .ok c') (h2 : Tidy fuel' e c' = .ok c'') : c'' = c' :=
  tidy_idem hwf hnames h1 h2

/-- C11, repeating upgrade-all changes nothing -/
theorem C11_idem_upgrade_all (e : Env) (c c' c'' : Config) (fuel fuel' : Nat)
    (hwf : WellFormed e (c.map (·.2))) (htags : ∀ t ∈ e.tags, okReq t) (hnames : (c.map (·.1)).Nodup)
    (h1 : UpgradeAll fuel e c = .ok c') (h2 : UpgradeAll fuel' e c' = .ok c'') : c'' = c' :=
  upgradeAll_idem hwf hnames h1 h2

/-- C11, repeating `get p@q`: if the first call landed — the build list of its result has `p` at the version the query
resolves to — the second call returns the file unchanged. (The excluded case is the known findings D15 / D15b: a call
that could not land is followed by a call that takes another branch.) -/
theorem C11_get_idem (e : Env) (c c' : Config) (q : String) (fuel0 fuel : Nat) (bl' : List Mod) (version : Mod)
    (hnames : (c.map (·.1)).Nodup) (hget : Get fuel0 e c q = .ok c')
    (hwf' : WellFormed e (c'.map (·.2))) (hbl' : BuildList fuel e c' = .ok bl')
    (hres : resolveVersionQuery e bl' (parseVersionQuery q) = .ok version) (hver : okReq version)
    (hland : version ∈ bl') : Get fuel e c' q = .ok c' :=
  get_landed_noop hwf' (transformReqs_sorted hget hnames) hbl' hres hver hland

/-- C11, downgrading, first half (a lemma of `C11_downgrade`): when `get p@q` is a downgrade (the current build list has
`p` above the resolved version), the project file it writes resolves to exactly the build list `mvs.Downgrade` computed — the file and the
algorithm agree, names and all (`C11_names`). Not part of this statement: that this list has `p` at or below the resolved
version; that is the exclusion-closure invariant of `add`/`exclude` in `mvs.Downgrade` (a module is kept only if nothing it
transitively requires exceeds the downgraded maxima): `mvsDowngrade_at_or_below`, and with it `C11_downgrade` below. -/
theorem C11_downgrade_partial (e : Env) (c c' : Config) (q : String) (fuel fuel' : Nat) (bl bl' : List Mod) (version : Mod)
    (hwf : WellFormed e (c.map (·.2))) (htags : ∀ t ∈ e.tags, okReq t)
    (hget : Get fuel e c q = .ok c') (hbl : BuildList fuel e c = .ok bl)
    (hres : resolveVersionQuery e bl (parseVersionQuery q) = .ok version) (hver : okReq version)
    (hdown : ∃ cur ∈ bl, cur.path = version.path ∧ semverCompare cur.ver version.ver = .gt)
    (hbl' : BuildList fuel' e c' = .ok bl') :
    ∃ bld, mvsDowngrade fuel (dawnReqs e (c.map (·.2))) (previous e) rootMod version = .ok bld ∧ bl' = bld :=
  get_downgrade hwf hget hbl hres hver hdown hbl'

/-- C11, downgrading, at full strength: when `get p@q` is a downgrade, the build list of the project file it writes has
`p` at or below the resolved version — or does not have `p` at all. (`C11_downgrade_partial`: that build list is the list
`mvs.Downgrade` computed; `mvsDowngrade_at_or_below`: the exclusion closure of `add`/`exclude` keeps out of that list
everything that, transitively, requires `p` above the resolved version.) -/
theorem C11_downgrade (e : Env) (c c' : Config) (q : String) (fuel fuel' : Nat) (bl bl' : List Mod) (version : Mod)
    (hwf : WellFormed e (c.map (·.2))) (htags : ∀ t ∈ e.tags, okReq t)
    (hget : Get fuel e c q = .ok c') (hbl : BuildList fuel e c = .ok bl)
    (hres : resolveVersionQuery e bl (parseVersionQuery q) = .ok version) (hver : okReq version)
    (hdown : ∃ cur ∈ bl, cur.path = version.path ∧ semverCompare cur.ver version.ver = .gt)
    (hbl' : BuildList fuel' e c' = .ok bl') :
    ∀ w, (⟨version.path, w⟩ : Mod) ∈ bl' → Ver.le w version.ver := by
  obtain ⟨bld, hd, rfl⟩ := C11_downgrade_partial e c c' q fuel fuel' bl bl' version hwf htags hget hbl hres hver hdown hbl'
  exact mvsDowngrade_at_or_below hd hver.1

/-- C11, the downgrade loop terminates: when `Previous` answers `"none"` or a strictly smaller version out of a finite
set `vs` (to which the versions the downgrade names belong), the loop `for excluded[r]` of `mvs.Downgrade` ends after at
most `|vs| + 1` iterations (given that the bounded recursion `add` has enough fuel, a separate matter). -/
theorem C11_downgrade_terminates (fuel : Nat) (rq : Reqs) (prev : Mod → Option Mod) (maxv : Sel) (vs : List Ver)
    (hadd : ∀ st p, (add fuel rq maxv st p).isSome)
    (hprev : ∀ r p, prev r = some p → p.ver = .none ∨ (p.ver ∈ vs ∧ cmpVersion p.ver r.ver = .lt))
    (hmax : ∀ p v, maxv.lookup p = some v → v ∈ vs) (n : Nat) (st : DState) (r : Mod) (hn : vs.length < n) :
    stepDown fuel rq prev maxv n st r ≠ .error .fuel := by
  exact (stepDown_terminates_on (fun _ => True) fuel rq prev maxv vs (fun st p _ => hadd st p)
    (fun r p _ hp => (hprev r p hp).imp_right fun h => ⟨h.1, h.2, trivial⟩) hmax (fun _ _ _ _ _ _ => trivial)
    n st r trivial (Nat.lt_of_le_of_lt (List.length_filter_le _ _) hn)).1

/-- `Reqs.Previous` satisfies the hypothesis of `C11_downgrade_terminates` with `vs` = the tagged versions -/
theorem C11_previous_decreases (e : Env) (r p : Mod) (hr : r.path ≠ "") (hrv : r.ver ≠ .root) (h : previous e r = some p) :
    p.ver = .none ∨ (p.ver ∈ e.tags.map (·.ver) ∧ cmpVersion p.ver r.ver = .lt) :=
  ((previousFrom_spec h).2.resolve_left hr).imp_right fun ⟨ht, hlt, _, hs⟩ =>
    ⟨List.mem_map.mpr ⟨_, ht, rfl⟩, cmpVersion_of_semver_lt hlt hrv (hs ▸ Ver.noConfusion)⟩

/-- D13 (fixed; regression witness): the old `Reqs.Previous`, asked for the version before `""`, answers `""`, and the
loop `for excluded[r]` that has reached such a module never ends, whatever the number of iterations. -/
theorem C11_previous_counterexample (fuel : Nat) (rq : Reqs) (e : Env) (maxv : Sel) (p : String) (hp : p ≠ "")
    (hloc : located e p = true) (st : DState)
    (hex : (⟨p, .root⟩ : Mod) ∈ st.excluded) (hadded : (⟨p, .root⟩ : Mod) ∈ st.added) (n : Nat) :
    previousD13 e ⟨p, .root⟩ = some ⟨p, .root⟩ ∧
    stepDown fuel rq (previousD13 e) maxv n st ⟨p, .root⟩ = .error .fuel :=
  ⟨previousD13_fixpoint e p hp hloc, stepDown_D13_spins fuel rq e maxv p hp hloc st hex hadded n⟩

/-- C11, queries by ref: what `resolveRefQuery` (modelled over an abstract commit history: refs, revisions, the order
`History()` walks ancestors, the tagged revisions — several tags may sit on one revision) resolves to is a version of the
queried project. Let `t` be the tag the search stops at: the tag of the CLOSEST tagged ancestor (the first revision in
history order that carries a tag of the project's major line) and, among the tags of that revision, the GREATEST version
(`repo.Versions()` is sorted by version; the code takes the last match). Then the answer is `t` itself when that ancestor
is the revision the ref names, and otherwise sorts strictly ABOVE `t` — asking for a revision that descends from a tag is
never a step below that tag, and a commit tagged v1.0.0-rc.1 and v1.0.0 is v1.0.0. -/
theorem C11_ref_resolution (h : History) (major path ref revId : String) (rev : Revision) (m : Mod)
    (hsorted : h.tagRevs.Pairwise fun a b => Ver.le a.1.ver b.1.ver)
    (href : h.refs ref = some revId) (hrev : h.revision revId = some rev)
    (hres : resolveRefQuery h major path ref = .ok m) :
    m.path = path ∧
    ∀ t tr, closestTag h major path (h.ancestors revId) = some (t, tr) →
      (∀ t' ∈ h.tagRevs, t'.1.path = path → majorVersionMatch major t'.1.ver = true → t'.2 = tr → Ver.le t'.1.ver t.ver) ∧
      (tr = rev.id → m = t) ∧ (tr ≠ rev.id → ∀ s, t.ver = .sv s → cmpVersion t.ver m.ver = .lt) := by
  obtain ⟨h1, h2⟩ := resolveRefQuery_spec href hrev hres
  refine ⟨h1, fun t tr ht => ⟨?_, h2 t tr ht⟩⟩
  exact closestTag_greatest hsorted ht

/-! ### total correctness: fuel sufficiency in finite universes (the C11 counterpart of `C10_fuel`)

`U` is any finite list of modules that contains the main project and is closed under requirements; `deg` counts a
module's requirements. With these, the partial-correctness theorems above become total for `Tidy` and `UpgradeAll`; and for
`get` (`C11_fuel_get`: one universe and one bound for its three branches). -/

/-- `Tidy` answers — requirements or an error, never `Err.fuel` — once the fuel reaches `1 + |U| + Σ_{n∈U} (2 + deg n)` -/
theorem C11_fuel_tidy (e : Env) (c : Config) (U : List Mod) (hroot : rootMod ∈ U)
    (hU : ∀ n ∈ U, ∀ l, (dawnReqs e (c.map (·.2))).required n = some l → ∀ m ∈ l, m ∈ U) (fuel : Nat)
    (hf : 1 + U.length + (U.map fun n => 2 + deg (dawnReqs e (c.map (·.2))) n).sum ≤ fuel) :
    Tidy fuel e c ≠ .error .fuel :=
  transformReqs_fuel (req_fuel _ rootMod U hroot hU fuel hf)

/-- `UpgradeAll` answers once the fuel reaches both the bound of its exploration (requirement and upgrade edges) and
the bound of `ReqList` -/
theorem C11_fuel_upgrade_all (e : Env) (c : Config) (U : List Mod) (hroot : rootMod ∈ U)
    (hU : ∀ n ∈ U, ∀ l, (dawnReqs e (c.map (·.2))).required n = some l → ∀ m ∈ l, m ∈ U)
    (hU' : ∀ n ∈ U, ∀ m ∈ edges (dawnReqs e (c.map (·.2))) (some (upAllFn e)) n, m ∈ U) (fuel : Nat)
    (hf1 : 1 + (U.map fun n => 1 + (edges (dawnReqs e (c.map (·.2))) (some (upAllFn e)) n).length).sum ≤ fuel)
    (hf2 : 1 + U.length + (U.map fun n => 2 + deg (dawnReqs e (c.map (·.2))) n).sum ≤ fuel) :
    UpgradeAll fuel e c ≠ .error .fuel :=
  transformReqs_fuel ((buildListWith_within hroot hU' hf1).then_reqList hroot hU hf2)

/-- C11, `get` as a total function: in ONE finite universe `U` that contains the main project, is closed under requirements,
contains whatever the query can resolve to (together with the placeholder `p@none` that `mvs.Upgrade` adds for a project
that is not yet required) and whatever `Reqs.Previous` answers for its modules other than the main project (strictly decreasing or `"none"`), `Get`
never answers `Err.fuel` once the fuel reaches `getBound` = 1 + Σ_{n∈U} (3 + |U| + 2·deg n) — whichever branch it takes
(add, no-op, upgrade with its overridden exploration, downgrade with `add`, the loop `for excluded[r]` and its two
re-resolutions, and the final `ReqList`). With this, `C11_upgrade`, `C11_upgrade_exact`, `C11_downgrade`, `C11_names` and
`C11_get_idem` are statements about a function that answers. -/
theorem C11_fuel_get (fuel : Nat) (e : Env) (c : Config) (q : String) (U : List Mod) (hroot : rootMod ∈ U)
    (hU : ∀ n ∈ U, ∀ l, (dawnReqs e (c.map (·.2))).required n = some l → ∀ m ∈ l, m ∈ U)
    (hres : ∀ bl version, resolveVersionQuery e bl (parseVersionQuery q) = .ok version →
      version ∈ U ∧ (⟨version.path, .none⟩ : Mod) ∈ U)
    (hprev : ∀ r p, r ∈ U → r.path ≠ "" → previous e r = some p → p.ver = .none ∨ (cmpVersion p.ver r.ver = .lt ∧ p ∈ U))
    (hf : getBound (dawnReqs e (c.map (·.2))) U ≤ fuel) :
    Get fuel e c q ≠ .error .fuel :=
  transformReqs_fuel (get_fuel fuel e (previous e) _ _ U hroot hU hres hprev (previous_path e) hf)

/-- `mvs.Downgrade`'s recursion `add` answers once the fuel reaches `Σ_{n∈U} (3 + 2·deg n)` -/
theorem C11_fuel_add (rq : Reqs) (maxv : Sel) (U : List Mod)
    (hU : ∀ n ∈ U, ∀ l, rq.required n = some l → ∀ m ∈ l, m ∈ U) (fuel : Nat)
    (hf : (U.map fun n => 3 + 2 * deg rq n).sum ≤ fuel) (st : DState) (m : Mod) (hm : m ∈ U) :
    (add fuel rq maxv st m).isSome :=
  add_fuel rq maxv U hU fuel hf st m hm

/-- `ReqList` answers once the fuel reaches `1 + |list| + Σ_{n∈U} (2 + deg n)` -/
theorem C11_fuel_reqList (rq : Reqs) (main : Mod) (list U : List Mod) (hmain : main ∈ U) (hlist : ∀ m ∈ list, m ∈ U)
    (hU : ∀ n ∈ U, ∀ l, rq.required n = some l → ∀ m ∈ l, m ∈ U) (fuel : Nat)
    (hf : 1 + list.length + (U.map fun n => 2 + deg rq n).sum ≤ fuel) :
    reqList fuel rq main list ≠ .error .fuel :=
  reqList_fuel rq main list U hmain hlist hU fuel hf

/-- the loop `for excluded[r]` of `mvs.Downgrade`, total: with candidates drawn from `U` (what `Previous` answers and the
versions the downgrade names stay in `U`), `Previous` strictly decreasing within the finite set `vs`, and fuel for `add`
as in `C11_fuel_add`, the loop never answers `Err.fuel` when allowed more than `|vs|` iterations -/
theorem C11_fuel_downgrade_loop (fuel : Nat) (rq : Reqs) (prev : Mod → Option Mod) (maxv : Sel) (vs : List Ver) (U : List Mod)
    (hU : ∀ n ∈ U, ∀ l, rq.required n = some l → ∀ m ∈ l, m ∈ U)
    (hf : (U.map fun n => 3 + 2 * deg rq n).sum ≤ fuel)
    (hprev : ∀ r p, r ∈ U → prev r = some p → p.ver = .none ∨ (p.ver ∈ vs ∧ cmpVersion p.ver r.ver = .lt ∧ p ∈ U))
    (hmax : ∀ p v, maxv.lookup p = some v → v ∈ vs)
    (hadj : ∀ r p v, r ∈ U → prev r = some p → maxv.lookup r.path = some v → (⟨p.path, v⟩ : Mod) ∈ U)
    (n : Nat) (st : DState) (r : Mod) (hr : r ∈ U) (hn : vs.length < n) :
    stepDown fuel rq prev maxv n st r ≠ .error .fuel := by
  exact (stepDown_terminates_on (· ∈ U) fuel rq prev maxv vs
    (fun st p hp => add_fuel rq maxv U hU fuel hf st p hp) hprev hmax hadj n st r hr
    (Nat.lt_of_le_of_lt (List.length_filter_le _ _) hn)).1

/-! ### non-vacuity and the concrete witnesses of D13, D14, D15 -/

namespace Example

def R := "github.com/v/u"
def A := "github.com/v/u/a"
def B := "github.com/v/u/b"
def P0 := "github.com/v/u/p0"
def P1 := "github.com/v/u/p1"

/-- D13's universe: a v1.1.0 → b v1.2.0; b v1.1.0; b v1.2.0; b v1.3.0 -/
def summary13 : Mod → Option Summary
  | ⟨"github.com/v/u/a", .sv ⟨1, 1, 0, []⟩⟩ => some ⟨"", [⟨B, v 1 2 0⟩]⟩
  | ⟨"github.com/v/u/b", .sv ⟨1, 1, 0, []⟩⟩ => some ⟨"", []⟩
  | ⟨"github.com/v/u/b", .sv ⟨1, 2, 0, []⟩⟩ => some ⟨"", []⟩
  | ⟨"github.com/v/u/b", .sv ⟨1, 3, 0, []⟩⟩ => some ⟨"lib", []⟩
  | _ => .none

def env13 : Env := ⟨R, summary13, [⟨B, v 1 1 0⟩, ⟨A, v 1 1 0⟩, ⟨B, v 1 2 0⟩, ⟨B, v 1 3 0⟩], "main", fun _ _ => .none⟩
def cfg13 : Config := [("a", ⟨A, v 1 1 0⟩), ("b", ⟨B, v 1 2 0⟩)]

/-- `get` with the old `Reqs.Previous` -/
def GetD13 (fuel : Nat) (e : Env) (c : Config) (query : String) : Except Err Config :=
  transformReqs e c fun root => get fuel e (previousD13 e) root (parseVersionQuery query)

/-- the hypotheses of `C11_fuel_tidy` on D13's universe: five modules, closed; the bound is 1 + 5 + (5·2 + 3 edges) = 19 -/
def U13 : List Mod := [rootMod, ⟨A, v 1 1 0⟩, ⟨B, v 1 1 0⟩, ⟨B, v 1 2 0⟩, ⟨B, v 1 3 0⟩]
example : Tidy 19 env13 cfg13 ≠ .error .fuel := C11_fuel_tidy env13 cfg13 U13 (by decide) (by decide) 19 (by decide)

/-- the hypotheses of `C11_fuel_get` on D13's universe and failing input (a downgrade): the five modules, plus the
placeholder `b@none`; the bound is 1 + 6·(3 + 6) + 2·3 = 61 -/
def U13g : List Mod := U13 ++ [⟨B, .none⟩]
example : Get 61 env13 cfg13 "github.com/v/u/b@v1.1.0" ≠ .error .fuel := by
  have hprev : ∀ r ∈ U13g, r.path ≠ "" → ∀ p, previous env13 r = some p →
      p.ver = .none ∨ (cmpVersion p.ver r.ver = .lt ∧ p ∈ U13g) := by decide +kernel
  apply C11_fuel_get 61 env13 cfg13 _ U13g (by decide) (by decide +kernel) _
    (fun r p hr hne hp => hprev r hr hne p hp) (by decide +kernel)
  intro bl version h
  have key : resolveVersionQuery env13 bl (parseVersionQuery "github.com/v/u/b@v1.1.0") = .ok ⟨B, v 1 1 0⟩ := by rfl
  rw [key] at h
  cases h
  exact ⟨by decide, by decide⟩

/-- D13 on its failing input: the fixed model drops `a`, which has no older tag, and lands on b v1.1.0 … -/
example : Get 30 env13 cfg13 "github.com/v/u/b@v1.1.0" = .ok [("b", ⟨B, v 1 1 0⟩)] := by decide +kernel
/-- … the old one does not return -/
example : GetD13 30 env13 cfg13 "github.com/v/u/b@v1.1.0" = .error .fuel := by decide +kernel

/-- hypotheses of `C11_downgrade_partial` (same input): the current list has b v1.2.0, the query resolves b v1.1.0 -/
example : BuildList 30 env13 cfg13 = .ok [rootMod, ⟨A, v 1 1 0⟩, ⟨B, v 1 2 0⟩] := by decide +kernel
example : resolveVersionQuery env13 [rootMod, ⟨A, v 1 1 0⟩, ⟨B, v 1 2 0⟩] (parseVersionQuery "github.com/v/u/b@v1.1.0") =
    .ok ⟨B, v 1 1 0⟩ := by decide +kernel

/-- hypotheses of `C11_tidy`, `C11_idem_tidy`: b is implied by a -/
example : Tidy 30 env13 cfg13 = .ok [("a", ⟨A, v 1 1 0⟩)] := by decide +kernel
example : Tidy 30 env13 [("a", ⟨A, v 1 1 0⟩)] = .ok [("a", ⟨A, v 1 1 0⟩)] := by decide +kernel
example : WellFormed env13 (cfg13.map (·.2)) := by
  refine ⟨?_, ?_⟩
  · intro m hm
    simp only [cfg13, List.map_cons, List.map_nil, List.mem_cons, List.not_mem_nil, or_false] at hm
    rcases hm with rfl | rfl <;> exact ⟨by decide, _, rfl⟩
  · intro n s hs m hm
    unfold env13 summary13 at hs
    dsimp only at hs
    split at hs <;> cases hs <;> simp at hm
    subst hm; exact ⟨by decide, _, rfl⟩

/-- hypotheses of `C11_upgrade`, `C11_upgrade_all`, `C11_get_idem`: an upgrade by range query that lands -/
example : Get 30 env13 cfg13 "github.com/v/u/b@>v1.2.0" = .ok [("a", ⟨A, v 1 1 0⟩), ("b", ⟨B, v 1 3 0⟩)] := by decide +kernel
example : Get 30 env13 [("a", ⟨A, v 1 1 0⟩), ("b", ⟨B, v 1 3 0⟩)] "github.com/v/u/b@>v1.2.0" =
    .ok [("a", ⟨A, v 1 1 0⟩), ("b", ⟨B, v 1 3 0⟩)] := by decide +kernel
example : UpgradeAll 30 env13 cfg13 = .ok [("a", ⟨A, v 1 1 0⟩), ("b", ⟨B, v 1 3 0⟩)] := by decide +kernel
/-- a new project gets its configured name; an existing name `lib` forces the suffix -/
example : Get 30 env13 [("lib", ⟨A, v 1 1 0⟩)] "github.com/v/u/b@v1.3.0" =
    .ok [("lib", ⟨A, v 1 1 0⟩), ("lib-1", ⟨B, v 1 3 0⟩)] := by decide +kernel

/-- D14 (fixed; regression witness): with two names for one path the old first loop of `transformReqs` depended on the
order of the returned list (map iteration order in Go) and could lower the project … -/
theorem C11_alias_counterexample :
    firstLoopD14 [("n0", ⟨P0, v 1 4 0⟩), ("n1", ⟨P0, v 1 2 0⟩)] [⟨P1, v 1 4 0⟩, ⟨P0, v 1 4 0⟩, ⟨P0, v 1 2 0⟩] =
      [("n0", ⟨P0, v 1 2 0⟩), ("n1", ⟨P0, v 1 2 0⟩)] ∧
    firstLoopD14 [("n0", ⟨P0, v 1 4 0⟩), ("n1", ⟨P0, v 1 2 0⟩)] [⟨P1, v 1 4 0⟩, ⟨P0, v 1 2 0⟩, ⟨P0, v 1 4 0⟩] =
      [("n0", ⟨P0, v 1 4 0⟩), ("n1", ⟨P0, v 1 4 0⟩)] := by
  constructor <;> rfl

/-- … the present one leaves every alias on its own requirement, in either order -/
example : ∀ nv ∈ [[⟨P1, v 1 4 0⟩, ⟨P0, v 1 4 0⟩, ⟨P0, v 1 2 0⟩], [⟨P1, v 1 4 0⟩, ⟨P0, v 1 2 0⟩, ⟨P0, v 1 4 0⟩]],
    ([("n0", ⟨P0, v 1 4 0⟩), ("n1", ⟨P0, v 1 2 0⟩)] : Config).filterMap
      (fun nr => (pickFor nr.2 nv .none).map fun w => (nr.1, w)) = [("n0", ⟨P0, v 1 4 0⟩), ("n1", ⟨P0, v 1 2 0⟩)] := by
  decide

/-- a history: commit 1 tagged p v1.0.0, commit 2 tagged p v1.4.0, commit 3 untagged; `main` names 3, `rel` names 2 -/
def hist33 : History :=
  { refs := fun r => if r = "main" then some "3" else if r = "rel" then some "2" else .none
    revision := fun id => some ⟨id, "1970010100" ++ (if id = "3" then "0500" else "0320"), id⟩
    ancestors := fun id => if id = "3" then ["3", "2", "1"] else if id = "2" then ["2", "1"] else ["1"]
    tagRevs := [(⟨P0, v 1 0 0⟩, "1"), (⟨P0, v 1 4 0⟩, "2")] }

/-- hypotheses of `C11_ref_resolution`: the branch ahead of the newest tag resolves above it, the branch at the tag to the tag -/
example : resolveRefQuery hist33 "" P0 "main" = .ok ⟨P0, .sv ⟨1, 4, 1, [.num 0, .str "19700101000500-3".toList]⟩⟩ := by rfl
example : resolveRefQuery hist33 "" P0 "rel" = .ok ⟨P0, v 1 4 0⟩ := by rfl

/-- two tags of one project on one commit (v1.0.0-rc.1 and v1.0.0 on commit 2, listed in version order): the greatest wins -/
def hist2 : History :=
  { refs := fun r => if r = "rel" then some "2" else .none
    revision := fun id => some ⟨id, "19700101000320", id⟩
    ancestors := fun id => if id = "2" then ["2", "1"] else ["1"]
    tagRevs := [(⟨P0, .sv ⟨0, 9, 0, []⟩⟩, "2"), (⟨P0, .sv ⟨1, 0, 0, [.str "rc".toList, .num 1]⟩⟩, "2"), (⟨P0, v 1 0 0⟩, "2")] }
example : resolveRefQuery hist2 "" P0 "rel" = .ok ⟨P0, v 1 0 0⟩ := by rfl
example : hist2.tagRevs.Pairwise fun a b => Ver.le a.1.ver b.1.ver := by decide

/-- D33 (fixed; regression witness): the search that did not stop at the first tagged ancestor based the pseudo-version
on the OLDEST tag — below the tag the revision descends from — and did not recognise a tagged revision -/
theorem C11_ref_counterexample :
    resolveRefQueryD33 hist33 "" P0 "main" = .ok ⟨P0, .sv ⟨1, 0, 1, [.num 0, .str "19700101000500-3".toList]⟩⟩ ∧
    cmpVersion (.sv ⟨1, 0, 1, [.num 0, .str "19700101000500-3".toList]⟩) (v 1 4 0) = .lt ∧
    resolveRefQueryD33 hist33 "" P0 "rel" = .ok ⟨P0, .sv ⟨1, 0, 1, [.num 0, .str "19700101000320-2".toList]⟩⟩ := by
  refine ⟨by rfl, by decide, by rfl⟩

/-- D15's universe: p0 v1.1.0 → p1 v1.2.0; p0 v1.2.0; p1 v1.1.0; p1 v1.2.0 -/
def summary15 : Mod → Option Summary
  | ⟨"github.com/v/u/p0", .sv ⟨1, 1, 0, []⟩⟩ => some ⟨"", [⟨P1, v 1 2 0⟩]⟩
  | ⟨"github.com/v/u/p0", .sv ⟨1, 2, 0, []⟩⟩ => some ⟨"", []⟩
  | ⟨"github.com/v/u/p1", .sv ⟨1, 1, 0, []⟩⟩ => some ⟨"", []⟩
  | ⟨"github.com/v/u/p1", .sv ⟨1, 2, 0, []⟩⟩ => some ⟨"", []⟩
  | _ => .none

def env15 : Env := ⟨R, summary15, [⟨P0, v 1 1 0⟩, ⟨P1, v 1 1 0⟩, ⟨P0, v 1 2 0⟩, ⟨P1, v 1 2 0⟩], "main", fun _ _ => .none⟩

/-- D15 (known finding): the excluded case of `C11_get_idem` is real — the downgrade cannot land on p0 v1.1.0 (it needs
p1 v1.2.0, newer than the current list), drops p0 and its name, and the second call adds p0 back. -/
theorem C11_get_idem_counterexample :
    Get 30 env15 [("n0", ⟨P0, v 1 2 0⟩), ("n1", ⟨P1, v 1 1 0⟩)] "github.com/v/u/p0@v1.1.0" = .ok [("n1", ⟨P1, v 1 1 0⟩)] ∧
    Get 30 env15 [("n1", ⟨P1, v 1 1 0⟩)] "github.com/v/u/p0@v1.1.0" =
      .ok [("n1", ⟨P1, v 1 1 0⟩), ("p0", ⟨P0, v 1 1 0⟩)] := by
  decide +kernel

end Example

end Dawn.Mvs
