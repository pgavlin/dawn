import Dawn.Proofs.EnvWitnesses
import Dawn.Proofs.EnvTermination
import Dawn.Proofs.EnvRename
import Dawn.Proofs.EnvCompare
import Dawn.Proofs.EnvIso
/-!
# C08 — every target function can be fingerprinted, deterministically

The property theorems of C08 with their witnesses. `encVal` / `encodeOps` / `fingerprint` model the walk of `pickle.Encoder` over a function's
environment with the host pickler of `function.go` (tied to the source by `Dawn/Ties/Env.lean` and by the
correspondence stream `env.fp`: the model's bytes for the graph read off the real `*starlark.Function` are the
bytes the real `functionEnv` produces); `equalDepth` / `diffEnvOld` / `diffEnvD16` / `diffEnvFixed` model the use `upToDate`
makes of it (streams `env.eq`, `env.decide`). `Cfg.current` is the repaired tree, `Cfg.original` the tree as found.
-/
namespace Dawn.Env

/-! ## termination -/

/-- C08, "computing its environment fingerprint terminates": for EVERY finite heap — functions, function code and
builtins that reach themselves included; there is no acyclicity hypothesis on host objects — the repaired
traversal with the stated fuel does not run out of fuel. `TuplesOrdered` says that a tuple's elements exist
before the tuple (tuples are immutable), which is how the harness numbers every graph it extracts. -/
theorem C08_terminates (cfg : Cfg) (hfix : cfg.fixed = true) (g : Heap) (hto : TuplesOrdered g) (root : Val) :
    encodeOps cfg g (fuelBound g) root ≠ .error .outOfFuel := by
  exact fun h => ((encVal_good cfg hfix g hto _ {} root (mu_lt_fuelBound g root)).1 _ (encodeOps_error h)).1 rfl

/-- … "without error": on a closed heap of picklable values the repaired traversal returns the opcodes. -/
theorem C08_terminates_ok (cfg : Cfg) (hfix : cfg.fixed = true) (hm : cfg.mandatory = true) (g : Heap)
    (hto : TuplesOrdered g) (hc : Closed g) (hp : Picklable g) (root : Val) (hr : ValClosed g root) :
    ∃ ops, encodeOps cfg g (fuelBound g) root = .ok ops := by
  cases h : encodeOps cfg g (fuelBound g) root with
  | error e =>
    exact absurd ⟨⟨hm, hc, hp⟩, hr⟩
      ((encVal_good cfg hfix g hto _ {} root (mu_lt_fuelBound g root)).1 e (encodeOps_error h)).2
  | ok ops => exact ⟨ops, rfl⟩

/-- the recursive witness of D3 satisfies the hypotheses and is walked by the repaired pickler:
`fact → code → globals → ("fact", fact)` ends in the marker `("dawn","Recursive",("fact", 0))` -/
example : tuplesOrdered gFact = true := by decide +kernel
example : (match encodeOps Cfg.current gFact (fuelBound gFact) (.ref 0) with
    | .ok ops => ops.contains (.str nameRecursive) && ops.contains (.int 0)
    | .error _ => false) = true := by decide +kernel

/-- D3 (regression witness): with the stateless pickler of the original code the walk of a function that calls
itself does not return, whatever the fuel — in the real process a fatal Go stack overflow. -/
theorem C08_recursive_counterexample : ∀ fuel, encodeOps Cfg.original gFact fuel (.ref 0) = .error .outOfFuel := by
  intro fuel
  simp only [encodeOps, encVal_gFact]

/-! ## determinism -/

/-- C08, "two loads of identical project text produce equal fingerprints": the opcodes (hence the bytes) are a
function of the graph up to the addresses of its objects. If `g'` is `g` with every object moved from `a` to
`ρ a` (two loads of the same text: isomorphic graphs at different Go addresses, built in whatever order the
packages were loaded), the walk of `g'` from `ρ root` writes exactly what the walk of `g` from `root` writes,
for every version of the code the model follows. -/
theorem C08_deterministic (cfg : Cfg) (ρ : Nat → Nat) (hρ : Function.Injective ρ) (g g' : Heap)
    (hr : Renames ρ g g') (fuel : Nat) (root : Val) :
    encodeOps cfg g' fuel (root.rename ρ) = encodeOps cfg g fuel root := by
  have h := encVal_rename hρ cfg g g' hr fuel {} root
  have h0 : (({} : EncSt).rename ρ) = {} := rfl
  rw [h0] at h
  simp only [encodeOps, h]
  cases encVal cfg g fuel {} root with
  | error e => rfl
  | ok p => rfl

/-- a concrete instance: a shared list, a cycle and a recursive function, laid out at permuted addresses -/
def gDet : Heap :=
  [.func sFact (.ref 1) (.ref 1) (.ref 2), .tuple [], .code sFact (.ref 3) (.ref 4) [1, 2] (.ref 1),
   .list [.ref 3, .atom (.int 7)], .tuple [.ref 5], .tuple [.atom (.str sFact), .ref 0]]
def ρDet : Nat → Nat := fun a => if a < 6 then 5 - a else a
def gDet' : Heap := (gDet.map (Obj.rename ρDet)).reverse
example : Function.Injective ρDet := by
  intro a b h; simp only [ρDet] at h; split at h <;> split at h <;> omega
example : (List.range 8).all (fun a => gDet'[ρDet a]? == (gDet[a]?).map (Obj.rename ρDet)) = true := by decide +kernel
theorem gDet_same_ops : (match encodeOps Cfg.current gDet' 100 (.ref 5), encodeOps Cfg.current gDet 100 (.ref 0) with
    | .ok x, .ok y => x == y && x.length > 20
    | _, _ => false) = true := by decide +kernel
example : (match encodeOps Cfg.current gDet' 100 (.ref 5), encodeOps Cfg.current gDet 100 (.ref 0) with
    | .ok x, .ok y => x == y && x.length > 20
    | _, _ => false) = true := gDet_same_ops

/-! ## sensitivity -/

/-- C08, "changing any code or value the function references produces an unequal one": for the repaired code
(`Cfg.current`, which `Ties/Env.lean` ties to the tree) the opcodes determine the environment. If the walks of two
graphs write the same opcodes, the graphs are isomorphic below their roots (`EnvIso`): there is a one-to-one relation
between the addresses of their lists, dicts, sets and host objects under which the roots are similar and related
objects have the same kind, the same payload (target label, builtin name and receiver, bytecode, signature) and
similar children; tuples, which the encoder never memoises, are compared element by element. Contrapositive: any
edit that makes the environment non-isomorphic to what it was — another constant, element, global, default, free
variable, callee body, helper, signature, builtin, or another sharing / cycle structure — changes the opcodes.
With `C08_deterministic` (isomorphic ⇒ equal opcodes): the opcodes are equal exactly for isomorphic environments.
Proof: `serT_injective` (the stack machine of the decoder reads every stream in one way), `encVal_toTerm`,
`lockstep`. The byte layer (`ser`: opcodes to bytes) is theorem C07_bytes of area Pickle. -/
theorem C08_sensitive (g₁ g₂ : Heap) (r₁ r₂ : Val) (f₁ f₂ : Nat) (ops : List Op)
    (h₁ : encodeOps Cfg.current g₁ f₁ r₁ = .ok ops) (h₂ : encodeOps Cfg.current g₂ f₂ r₂ = .ok ops) :
    EnvIso g₁ r₁ g₂ r₂ := by
  have hb : Cfg.current.batch ≠ 0 := by decide
  obtain ⟨s₁', o₁, e₁, rfl⟩ := encodeOps_ok h₁
  obtain ⟨s₂', o₂, e₂, ho⟩ := encodeOps_ok h₂
  rw [encVal_toTerm Cfg.current rfl hb] at e₁ e₂
  obtain ⟨t₁, ht₁, rfl⟩ := ok_written e₁
  obtain ⟨t₂, ht₂, hs₂⟩ := ok_written e₂
  have ht : t₁ = t₂ := serT_injective _ hb t₁ t₂ (hs₂.trans (List.append_cancel_right ho)).symm
  obtain ⟨R, _, hI, hV, hN⟩ := lockstep g₁ g₂ f₁ f₂ {} {} r₁ r₂ s₁' s₂' t₁ t₂ [] (toTerm_Enc g₁ _ _ _ _ _ ht₁)
    (toTerm_Enc g₂ _ _ _ _ _ ht₂) ht (inv_empty g₁ g₂)
  exact ⟨R, hI.1.oto, hV, fun p hp => hN p hp List.not_mem_nil⟩

/-- the contrapositive, as the property words it -/
theorem C08_sensitive_contrapositive (g₁ g₂ : Heap) (r₁ r₂ : Val) (f₁ f₂ : Nat) (ops₁ ops₂ : List Op)
    (h₁ : encodeOps Cfg.current g₁ f₁ r₁ = .ok ops₁) (h₂ : encodeOps Cfg.current g₂ f₂ r₂ = .ok ops₂)
    (hd : ¬ EnvIso g₁ r₁ g₂ r₂) : ops₁ ≠ ops₂ :=
  fun e => hd (C08_sensitive g₁ g₂ r₁ r₂ f₁ f₂ ops₁ h₁ (e ▸ h₂))

/-- the hypotheses are satisfiable with different heaps: the permuted copy of `gDet` above has the same opcodes, so
it is isomorphic to `gDet` — here the isomorphism is `a ↦ 5 - a` -/
example : EnvIso gDet' (.ref 5) gDet (.ref 0) := by
  have h := gDet_same_ops
  split at h
  · next x y h₁ h₂ => exact C08_sensitive _ _ _ _ _ _ x h₁ (eq_of_beq (Bool.and_eq_true_iff.mp h).1 ▸ h₂)
  · cases h

/-- the atom an opcode written by `encAtom` stands for -/
def decOp : Op → Option Atom
  | .none => some .none
  | .newtrue => some (.bool true)
  | .newfalse => some (.bool false)
  | .int i => some (.int i)
  | .float b => some (.float b)
  | .str s => some (.str s)
  | .bytes b => some (.bytes b)
  | _ => none

/-- distinct atoms are written differently (the base case of the above): the atom can be read back -/
theorem C08_sensitive_atoms : ∀ a b : Atom, encAtom a = encAtom b → a = b := by
  have inv : ∀ a, (encAtom a).head?.bind decOp = some a := by
    intro a; rcases a with _ | (_ | _) | _ | _ | _ | _ <;> rfl
  intro a b h
  exact Option.some.inj (by rw [← inv a, h, inv b])

/-- two builtins that differ only in their name: `h = len` and `h = str` as the global of the same function -/
def gBuiltin (name : Bytes) : Heap :=
  [.func sFact (.ref 2) (.ref 2) (.ref 1), .code sFact (.ref 2) (.ref 5) [1] (.ref 2), .tuple [],
   .builtin name (.atom .none), .tuple [.atom (.str sV), .ref 3], .tuple [.ref 4]]
def sLen : Bytes := "len".toUTF8.toList
def sStr : Bytes := "str".toUTF8.toList

def sameOps (x y : Except Err (List Op)) : Bool :=
  match x, y with
  | .ok a, .ok b => a == b
  | _, _ => false

/-- D20 (regression witness): the original rule `Builtin → ()` gives `h = len` and `h = str` one fingerprint … -/
theorem C08_builtin_counterexample :
    sameOps (encodeOps Cfg.original (gBuiltin sLen) 50 (.ref 0)) (encodeOps Cfg.original (gBuiltin sStr) 50 (.ref 0)) = true := by
  decide +kernel
/-- … the repaired rule `Builtin → (name, receiver)` tells them apart -/
example : sameOps (encodeOps Cfg.current (gBuiltin sLen) 50 (.ref 0)) (encodeOps Cfg.current (gBuiltin sStr) 50 (.ref 0)) = false := by
  decide +kernel

/-- `def g(*args)` and `def g(args)`: same bytecode, same defaults, different signature tuple (6 / 7) -/
def gSig (varargs : Bool) : Heap :=
  [.func sFact (.ref 2) (.ref 2) (.ref 1), .code sFact (.ref 2) (.ref 2) [1] (.ref 4), .tuple [],
   .tuple [.atom (.str sV)], .tuple [.ref 3, .atom (.int 0), .atom (.bool varargs), .atom (.bool false)]]

/-- D21 (regression witness): without the signature the two functions have one fingerprint … -/
theorem C08_signature_counterexample :
    sameOps (encodeOps Cfg.original (gSig true) 50 (.ref 0)) (encodeOps Cfg.original (gSig false) 50 (.ref 0)) = true := by
  decide +kernel
example : sameOps (encodeOps Cfg.current (gSig true) 50 (.ref 0)) (encodeOps Cfg.current (gSig false) 50 (.ref 0)) = false := by
  decide +kernel

/-- `def h(x, *, key)`: the defaults hold the `mandatory` placeholder -/
def gMandatory : Heap :=
  [.func sFact (.ref 4) (.ref 2) (.ref 1), .code sFact (.ref 2) (.ref 2) [1] (.ref 2), .tuple [],
   .mandatory, .tuple [.ref 5], .tuple [.atom (.str sV), .ref 3]]

/-- D19 (regression witness): the original pickler has no case for the placeholder, `Encode` fails … -/
theorem C08_mandatory_counterexample :
    (match encodeOps Cfg.original gMandatory 50 (.ref 0) with
     | .error .cannotPickle => true
     | _ => false) = true := by decide +kernel
/-- … the repaired one returns the opcodes (`sameOps` is `false` on an error) -/
example : sameOps (encodeOps Cfg.current gMandatory 50 (.ref 0)) (encodeOps Cfg.current gMandatory 50 (.ref 0)) = true := by
  decide +kernel

/-- two lambdas in progress with the same name: `c = a` versus `c = b` inside `a → b → c`. The ordinal in the
marker tells them apart (a marker that carried only the name would not). -/
def sLambda : Bytes := "lambda".toUTF8.toList
def gLambda (c : Nat) : Heap :=
  [.func sLambda (.ref 4) (.ref 4) (.ref 1), .code sLambda (.ref 4) (.ref 6) [1] (.ref 4),      -- a, refers to b
   .func sLambda (.ref 4) (.ref 4) (.ref 3), .code sLambda (.ref 4) (.ref 8) [2] (.ref 4),      -- b, refers to c
   .tuple [], .tuple [.atom (.str sV), .ref 2], .tuple [.ref 5],
   .tuple [.atom (.str sV), .ref c], .tuple [.ref 7]]
example : sameOps (encodeOps Cfg.current (gLambda 0) 50 (.ref 0)) (encodeOps Cfg.current (gLambda 2) 50 (.ref 0)) = false := by
  decide +kernel

/-! ## the use of the fingerprint: `upToDate` / `diffEnv` -/

/-- what `diffEnv` relied on before the repair: on an environment that is acyclic and shallower than the limit
`EqualDepth` never fails, whatever it is compared with, and the environment is equal to itself. -/
theorem C08_compare (g h : Heap) (x y : Val) (n : Nat) (hs : Shallow g n x) (hn : n ≤ compareLimit) :
    (∃ b, equalDepth g h compareLimit x y = .ok b) ∧
    (DictsDistinct g → equalDepth g g compareLimit x x = .ok true) :=
  ⟨equalDepth_ok g h (hs.mono _ hn) y, fun hk => equalDepth_refl g hk (hs.mono _ hn)⟩

/-- a decoded environment `{"global values": {"V": [1, (2, "x")]}}` satisfies the hypotheses -/
def gPlain : Heap :=
  [.dict [(.atom (.str sGlobalValues), .ref 1)], .dict [(.atom (.str sV), .ref 2)],
   .list [.atom (.int 1), .ref 3], .tuple [.atom (.int 2), .atom (.str sV)]]
example : Shallow gPlain 5 (.ref 0) := by
  refine .dict 4 0 _ rfl ?_
  intro p hp; simp at hp; subst hp
  refine .dict 3 1 _ rfl ?_
  intro p hp; simp at hp; subst hp
  refine .list 2 2 _ rfl ?_
  intro x hx; simp at hx
  rcases hx with rfl | rfl
  · exact .atom 1 _
  · refine .tuple 1 3 _ rfl ?_
    intro x hx; simp at hx
    rcases hx with rfl | rfl <;> exact .atom 0 _

/-- D16 (regression witness): the excluded point. On `V = []; V.append(V)` the comparison of the environment
with itself exceeds every depth limit, and the original `diffEnv` turns that into a build error on every later
build of the unchanged project. -/
theorem C08_cyclic_compare_counterexample :
    (∀ limit, equalDepth gCyc gCyc limit (.ref 0) (.ref 0) = .error .depthExceeded) ∧
    (∀ data, ∃ msg, diffEnvOld (some ⟨data, gCyc, .ref 0⟩) ⟨data, gCyc, .ref 0⟩ = .buildError msg) :=
  ⟨equalDepth_gCyc, fun _ => ⟨_, diffEnvOld_error (equalDepth_gCyc _)⟩⟩

/-- the repaired `diffEnv`: equal encodings are up to date — no structural comparison is made, so depth and cycles
do not matter -/
theorem C08_equal_encodings_up_to_date (old new : EnvRec) (h : old.data = new.data) :
    diffEnvFixed (some old) new = .upToDate := by
  simp [diffEnvFixed, h]

/-- … and ONLY equal encodings are: for a target that has a record, the repaired `diffEnv` answers "up to date"
exactly when the stored and the fresh encoding are the same bytes. With `C08_bytes_deterministic` (an unchanged
environment has the same bytes in every load) and `C08_bytes_sensitive` (the same bytes only for isomorphic
environments) this is: up to date ⇔ the environment did not change. (The use of the fingerprint; property C01.) -/
theorem C08_up_to_date_iff_equal_encodings (old new : EnvRec) :
    diffEnvFixed (some old) new = .upToDate ↔ old.data = new.data := by
  constructor
  · intro h
    simp only [diffEnvFixed] at h
    split at h
    · assumption
    · split at h <;> cases h
  · exact C08_equal_encodings_up_to_date old new

/-- no outcome of the repaired `diffEnv` is a build error -/
theorem C08_no_compare_error (old : Option EnvRec) (new : EnvRec) : ∀ msg, diffEnvFixed old new ≠ .buildError msg := by
  intro msg
  simp only [diffEnvFixed]
  split
  · simp
  · split
    · simp
    · split <;> simp

/-- the decoded environments of `X = 1` and of `X = 1.0`: `{"global values": {"V": 1}}` / `{… 1.0}` in one heap -/
def gOneFloat : Heap :=
  [.dict [(.atom (.str sGlobalValues), .ref 1)], .dict [(.atom (.str sV), .atom (.int 1))],
   .dict [(.atom (.str sGlobalValues), .ref 3)], .dict [(.atom (.str sV), .atom (.float 0x3ff0000000000000))]]

/-- D25 (regression witness): `1` and `1.0` are written differently (BININT1 / BINFLOAT), so the fingerprints differ,
but `EqualDepth` calls the decoded environments equal and the `diffEnv` of the D16 repair answered "up to date": a
target that prints `X` was not re-run after `X = 1` was edited to `X = 1.0`. -/
theorem C08_equal_but_distinct_counterexample :
    serAll (encAtom (.int 1)) ≠ serAll (encAtom (.float 0x3ff0000000000000)) ∧
    diffEnvD16 (some ⟨serAll (encAtom (.int 1)), gOneFloat, .ref 0⟩) ⟨serAll (encAtom (.float 0x3ff0000000000000)), gOneFloat, .ref 2⟩
      = .upToDate ∧
    diffEnvFixed (some ⟨serAll (encAtom (.int 1)), gOneFloat, .ref 0⟩) ⟨serAll (encAtom (.float 0x3ff0000000000000)), gOneFloat, .ref 2⟩
      = .rerun "environment changed" := by
  decide +kernel

example : diffEnvFixed (some ⟨[1], gCyc, .ref 0⟩) ⟨[1], gCyc, .ref 0⟩ = .upToDate := by decide +kernel
example : diffEnvFixed (some ⟨[0], gCyc, .ref 0⟩) ⟨[1], gCyc, .ref 0⟩ = .rerun "environment changed" :=
  diffEnvFixed_error (by decide) (equalDepth_gCyc _)

/-- D28 (regression witness): environments that differ only in a part `functionEnvKeys` does not list — the record
carries an extra key `"zzz"`, or files the signature under `"signature"` — made the original reason computation slice
an empty list with `[:-1]`: a Go panic that kills the build. The repaired one reports the generic reason. -/
theorem C08_unknown_part_counterexample :
    reasonForOld ["zzz"] = none ∧ reasonForOld ["signature"] = none ∧
    reasonFor ["zzz"] = "environment changed" ∧ reasonFor ["signature", "zzz"] = "environment changed" := by
  decide +kernel

/-- the repaired reason is defined for every diff, and names the known parts in the order of `functionEnvKeys` -/
theorem C08_reason_total (diffKeys : List String) :
    (reasonForOld diffKeys).isSome = true → reasonForOld diffKeys = some (reasonFor diffKeys) := by
  simp only [reasonForOld, reasonFor]
  cases envKeys.filter (diffKeys.contains ·) with
  | nil => simp [joinReasonOld]
  | cons a r => simp [joinReasonOld]

example : reasonFor ["code", "names"] = "names and code changed" := by decide +kernel
example : reasonFor ["parameters", "global values", "constant values"] = "constant values, global values, and parameters changed" := by
  decide +kernel

end Dawn.Env
