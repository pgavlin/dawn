import Dawn.Props.LinkEnvPickle
import Dawn.Props.Build
/-!
# C15 for a whole record: a damaged stamp is never "up to date"

A record file (`.dawn/build/targets/<label>`) carries the target's stamp: the pickled function environment as of its
last successful execution. Three models meet when a build reads it back:

* `Dawn.Pickle` (C15): `(*function).load` base64-decodes the stamp and runs `pickle.NewDecoder(r, envUnpickler).Decode()`
  — `Pickle.decodeEnv`. By `C15_env_no_crash` the answer is a value or an error, never a crash or a hang. An error is
  returned by `load` ("loading prior function environment"): the project does not load — **load error**.
* `Dawn.Env` (C08): when the stamp decodes, `upToDate` → `diffEnv` compares the stored BYTES with the bytes of the
  function as it is now (`Env.diffEnvFixed`, the D16/D25 repair): "up to date" exactly when they are the same bytes
  (`C08_up_to_date_iff_equal_encodings`); otherwise the target is out of date — or, when the decoded value is not the
  dict an environment is, `diffEnv` returns an error and the target fails (**build error**); either way not up to date.
* `Dawn.Build` (C01–C03): the engine's model keeps the stamp as the opaque value `Data.env e`, where `e` numbers the
  bytes (`Link.codeBytes`, injective: `C08_discharges_build_env_hypothesis`), and skips a target only if
  `info.data == .env d.env` (`upToDate`): with another stamp the plan is never `skip` — the target is **re-executed**
  (or the build fails for another reason: a failed dependency; or it is a dry run, which reports it as to be executed).

`C15_corrupt_record`: for a function target whose function now has fingerprint bytes `cur`, and ANY stamp bytes
`bs' ≠ cur` found in its record — in particular any damaged version of the stamp of a record that was up to date —
the outcome is a load error, or the stamp decodes and neither `diffEnv` nor the engine's skip decision says "up to
date". (A stamp damaged INTO exactly the bytes of the present function is indistinguishable from a genuine record: a
record carries no checksum; `C15_corrupt_record_only_current_bytes` states that this is the only way.)
-/
namespace Dawn.Link
open Dawn

/-- the record as `function.load` hands it to the engine when its stamp is the byte string `bs` -/
def withStamp (r : Build.Rec) (bs : Pickle.Bytes) : Build.Rec := { r with data := .env (codeBytes bs) }

/-- The engine never skips a function target whose record carries another stamp than the function's present one
(whatever else the record says, whatever the options, whatever the dependencies did). -/
theorem plan_not_skip_of_other_stamp (P : Build.Params) (t : Build.Tree) (o : Build.Opts) (s : Build.BSt) (l : Build.Label)
    (d : Build.Def) (hk : d.kind = .fn) (r : Build.Rec) (hr : s.w.recs l = some r) (hne : r.data ≠ .env d.env) :
    ∀ info, Build.plan P t o s l d ≠ .skip info := by
  intro info hp
  obtain ⟨_, hs, _⟩ := Build.plan_skip_iff.mp hp
  -- a record that passes the skip test is not marked, so the target is not `always`, and its stamp is the present one
  have hrr := hs.rerun
  have hup := hs.upToDate
  rw [Build.loadedInfo_eq, hr] at hrr hup
  cases ha : d.always with
  | true => simp [hk, ha] at hrr
  | false =>
    simp only [Build.upToDate, hk, ha, Bool.false_eq_true, if_false, Bool.and_eq_true, beq_iff_eq] at hup
    exact hne hup.1

theorem withStamp_data_ne {d : Build.Def} {cur bs' : Pickle.Bytes} (hcur : d.env = codeBytes cur) (hne : bs' ≠ cur)
    (r : Build.Rec) : (withStamp r bs').data ≠ .env d.env := by
  intro h
  rw [hcur] at h
  exact hne (codeBytes_injective _ _ (Build.Data.env.inj h))

/-- C15, record level. `cur`: the fingerprint bytes of the function as it is now (`d.env` numbers them); `bs'`: the
stamp bytes found in the record, anything but `cur`. Then loading fails with the decoder's error, or the stamp decodes
(to some heap and value — never a crash, `C15_env_no_crash`) and
* the repaired `diffEnv` (`Env.diffEnvFixed`) on the decoded old environment and ANY decoding of the present one does
  not answer "up to date", and
* the engine's plan for the target, with the record as loaded, is not `skip` — for any state of the build, any
  options, any rest of the record. -/
theorem C15_corrupt_record (P : Build.Params) (t : Build.Tree) (o : Build.Opts) (s : Build.BSt) (l : Build.Label)
    (d : Build.Def) (hk : d.kind = .fn) (cur bs' : Pickle.Bytes) (hcur : d.env = codeBytes cur) (hne : bs' ≠ cur)
    (r : Build.Rec) (hr : s.w.recs l = some (withStamp r bs')) :
    (∃ k, Pickle.decodeEnv bs' = .err k) ∨
    ((∃ h v, Pickle.decodeEnv bs' = .ok h v) ∧
      (∀ (oh nh : Env.Heap) (ov nv : Env.Val), Env.diffEnvFixed (some ⟨bs', oh, ov⟩) ⟨cur, nh, nv⟩ ≠ .upToDate) ∧
      ∀ info, Build.plan P t o s l d ≠ .skip info) := by
  rcases Pickle.C15_env_no_crash bs' with hok | herr
  · right
    refine ⟨hok, ?_, ?_⟩
    · intro oh nh ov nv hup
      exact hne ((Env.C08_up_to_date_iff_equal_encodings ⟨bs', oh, ov⟩ ⟨cur, nh, nv⟩).mp hup)
    · exact plan_not_skip_of_other_stamp P t o s l d hk (withStamp r bs') hr (withStamp_data_ne hcur hne r)
  · exact Or.inl herr

/-- The usual case: `r` is a record that was up to date (its stamp is the function's present fingerprint `bs`);
any damaged stamp `bs' ≠ bs` in its place gives a load error, or a target that is not up to date: `diffEnv` says so
and the engine re-executes it (or fails the build) — "up to date" is not among the outcomes. -/
theorem C15_corrupt_record_of_up_to_date (P : Build.Params) (t : Build.Tree) (o : Build.Opts) (s : Build.BSt)
    (l : Build.Label) (d : Build.Def) (hk : d.kind = .fn) (r : Build.Rec) (bs bs' : Pickle.Bytes)
    (hgen : r.data = .env (codeBytes bs)) (hupd : r.data = .env d.env) (hne : bs' ≠ bs)
    (hr : s.w.recs l = some (withStamp r bs')) :
    (∃ k, Pickle.decodeEnv bs' = .err k) ∨ ∀ info, Build.plan P t o s l d ≠ .skip info := by
  have hcur : d.env = codeBytes bs := by
    rw [hgen] at hupd
    exact (Build.Data.env.inj hupd).symm
  rcases C15_corrupt_record P t o s l d hk bs bs' hcur hne r hr with h | ⟨_, _, h⟩
  · exact Or.inl h
  · exact Or.inr h

/-- … and the only stamp with which the engine can skip the target is the present fingerprint itself -/
theorem C15_corrupt_record_only_current_bytes (P : Build.Params) (t : Build.Tree) (o : Build.Opts) (s : Build.BSt)
    (l : Build.Label) (d : Build.Def) (hk : d.kind = .fn) (cur bs' : Pickle.Bytes) (hcur : d.env = codeBytes cur)
    (r : Build.Rec) (hr : s.w.recs l = some (withStamp r bs')) (info : Build.Rec)
    (hskip : Build.plan P t o s l d = .skip info) : bs' = cur :=
  Classical.byContradiction fun hne =>
    plan_not_skip_of_other_stamp P t o s l d hk (withStamp r bs') hr (withStamp_data_ne hcur hne r) info hskip

/-! ## non-vacuity -/

/-- a damaged stamp that does not decode: the lone opcode byte `0x85` (TUPLE1 on an empty stack) -/
example : Pickle.decodeEnv [0x85] = .err .underflow := by decide

/-- a damaged stamp that decodes (`N .`: the value `None`, not an environment) -/
example : Pickle.decodeEnv [0x4e, 0x2e] = .ok [] (.atom .none) := by decide

/-- … and the engine's answer to it: in the example project the record of `d = 2` is given that stamp; the next build
executes `d` again (and then `t = 3`, whose dependency ran) -/
example :
    let w1 := (Build.runBuild Build.exP Build.exTree Build.exOpts [1, 2, 3] Build.exW0).w
    let w2 : Build.World := { w1 with recs := Build.upd w1.recs 2 ((w1.recs 2).map fun r => withStamp r [0x4e, 0x2e]) }
    (Build.runBuild Build.exP Build.exTree Build.exOpts [1, 2, 3] w1).execs = [] ∧
      (Build.runBuild Build.exP Build.exTree Build.exOpts [1, 2, 3] w2).execs = [3, 2] := by
  decide +kernel

end Dawn.Link
