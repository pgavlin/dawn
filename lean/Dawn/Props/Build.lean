import Dawn.Proofs.BuildSettle
import Dawn.Proofs.BuildDry
import Dawn.Proofs.BuildHist
import Dawn.Proofs.BuildClean
import Dawn.Proofs.BuildSim
import Dawn.Proofs.BuildPath
/-!
# C01, C02, C03, C13, C14 — the incremental engine

The property theorems, and the example project their hypotheses are checked on. The model (`Dawn/Model/Build.lean`) follows `runTarget.Evaluate`, the two `upToDate` functions,
`saveTargetInfo`, `dirSum`, `targetInfoPath` and `GC` as they are after the repairs D8, D9, D18, D22, D29, D32; it is tied to the
source by `Dawn/Ties/Build.lean` and by the correspondence stream `build.history` (every operation of generated
histories, real engine in a fresh process vs `drv_build`).

Standing hypotheses, all explicit:
* `Fixed P`: the repaired engine (`stampRuns`, `marker`, `listCheck`) and an injective `sha256` (`SumInj`).
* `Conforms S t`: the tree a load sees is well declared — a body writes what its function's fingerprint determines and
  reads what its fingerprint *and the lists it is handed through `self`* determine (`Shape.readsOf l env attrs`: a body
  may read `self.sources` in order, whatever a `glob` matched), its output may depend on those lists themselves
  (`Params.out` takes them), what it reads is declared as a dependency, every generated path has one owner, a source
  whose file a live target generates depends on that target (`link`). The record remembers those lists (D32 repair) and how
  many dependencies it listed (D29 repair): `C01_removed_dependency_counterexample` and
  `C01_reordered_sources_counterexample` are what goes wrong without the two tests. What `generates=` lists is still taken to be determined by the code (`Conforms.gens`).
* `RunnerOrder t ord` (= `Nodup ord ∧ Sorted t [] ord`): the runner hands each target to `Evaluate` once, after its dependencies (C04).
* `Reach P S R w`: `w` is the persisted state after ANY finite history of edits, real builds of any target lists with any
  failing bodies, dry runs, builds or loads killed at any hook point, and garbage collections
  (`Dawn/Proofs/BuildHist.lean`). `R` is the set of labels a collection retired; a tree built afterwards must not
  define them again (`NotRecreated`) — the exclusion C14 itself states: the run counter of D8's repair restarts with
  the record.
-/
namespace Dawn.Build

structure Fixed (P : Params) : Prop where
  stampRuns : P.stampRuns = true
  marker : P.marker = true
  listCheck : P.listCheck = true
  inj : SumInj P

/-- `sha256` modelled by the identity on canonical values is injective: the hypothesis `SumInj` is satisfiable -/
theorem sumInj_id (out) : SumInj { sum := id, out := out } := by
  intro v v' h
  unfold srcData at h
  cases v <;> cases v' <;> simp_all [canon]

/-- the order the runner produces, as lists: each target once, dependencies first -/
def RunnerOrder (t : Tree) (ord : List Label) : Prop := ord.Nodup ∧ Sorted t [] ord

theorem RunnerOrder.ordered {t : Tree} {ord : List Label} (h : RunnerOrder t ord) (P : Params) (o : Opts) (w : World) :
    Ordered P t o (BSt.init w) ord := ordered_init P t o ord w h.1 h.2

/-- no label whose record a collection removed is defined again -/
def NotRecreated (R : Label → Prop) (t : Tree) : Prop := ∀ x, R x → t.defs x = none

/-- every label of the order was visited and succeeded -/
def AllOk (s : BSt) (ord : List Label) : Prop := ∀ x ∈ ord, ∃ m, s.memo x = some m ∧ m.ok = true

/-! ## C01 — incremental builds are never stale -/

/-- `x` is current: its record is not marked for re-running, passes the engine's own `upToDate` test against the
files as they are (for a function target: it last completed with exactly the present code and values, and every file
it declares is there; for a source: the recorded sum is the present content's), and lists for every dependency the
stamp that dependency shows now — the content sum of a source, the (fingerprint, run counter) of a function target,
so that no dependency has completed an execution since `x` last did. -/
def Current (P : Params) (t : Tree) (s : BSt) (x : Label) : Prop :=
  ∃ m, s.memo x = some m ∧ Settled P t s x m

/-- C01, first formulation: whatever the persisted state `w` was (ANY history: it is not even assumed reachable), a
real build leaves every target it visited successfully current — in particular, when the requested target succeeded,
every target of its dependency closure. -/
theorem C01_never_stale {P : Params} {S : Shape} {t : Tree} {o : Opts} (hc : Conforms S t) (hdry : o.dry = false)
    (ord : List Label) (hord : RunnerOrder t ord) (w : World) :
    ∀ x m, (runBuild P t o ord w).memo x = some m → m.ok = true → Current P t (runBuild P t o ord w) x := by
  intro x m hx hok
  exact ⟨m, hx, build_settled hc hdry ord _ (sinv_init P t _) (hord.ordered P o _) x m hx hok⟩

/-- C01, invariant form: after any history, every target a real build visited successfully holds exactly what its
body computes from the present files of what it reads, with every declared output present. -/
theorem C01_consistent {P : Params} {S : Shape} {t : Tree} {o : Opts} (hf : Fixed P) (hc : Conforms S t) (hdry : o.dry = false)
    (ord : List Label) (hord : RunnerOrder t ord) {R : Label → Prop} (w : World) (hw : Reach P S R w) (hnr : NotRecreated R t) :
    ∀ l m d, (runBuild P t o ord w).memo l = some m → m.ok = true → t.defs l = some d → d.kind = .fn →
      Consistent P t (runBuild P t o ord w).w l d := by
  obtain ⟨G, di, hr⟩ := reach_dinv hf.inj hf.stampRuns hf.listCheck hf.marker hw
  obtain ⟨_, _, _, cons⟩ := build_consistent hc hf.inj hf.stampRuns hf.listCheck hdry ord w G di (hord.ordered P o _) (hr ▸ hnr)
  exact cons

/-- C01, second formulation: after any history of edits and builds (full, partial, failed, interrupted), the files
generated by a successful incremental build equal those a from-scratch build (no records) of the same tree produces.
`wc` is any record-free state with the same plain (not generated) files; its generated files may be missing or stale. -/
theorem C01_equiv_clean {P : Params} {S : Shape} {t : Tree} {o oc : Opts} (hf : Fixed P) (hc : Conforms S t)
    (hdry : o.dry = false) (hdryc : oc.dry = false) (ord : List Label) (hord : RunnerOrder t ord)
    {R : Label → Prop} (w wc : World) (hw : Reach P S R w) (hnr : NotRecreated R t)
    (hclean : ∀ l, wc.recs l = none) (hsame : ∀ p, Plain t p → wc.files p = w.files p)
    (hokA : AllOk (runBuild P t o ord w) ord) (hokB : AllOk (runBuild P t oc ord wc) ord) :
    ∀ x ∈ ord, ∀ d, t.defs x = some d → d.kind = .fn → ∀ g ∈ d.gens,
      (runBuild P t o ord w).w.files g = (runBuild P t oc ord wc).w.files g := by
  -- both builds leave every target consistent; consistent states over the same plain files are unique
  have consA := C01_consistent hf hc hdry ord hord w hw hnr
  have consB := C01_consistent hf hc hdryc ord hord wc (Reach.init wc hclean) (fun _ h => h.elim)
  refine consistent_unique (P := P) hc ord (fun p hp => ?_) (fun x hx d hd hk => ?_) hord.2
  · rw [runBuild_plain P t o p hp, runBuild_plain P t oc p hp, hsame p hp]
  · obtain ⟨mA, hmA, hA⟩ := hokA x hx
    obtain ⟨mB, hmB, hB⟩ := hokB x hx
    exact ⟨consA x mA d hmA hA hd hk, consB x mB d hmB hB hd hk⟩

/-! ### the defects, as regression witnesses on the old behaviour

A three-label project: source `1` (path 10), `d = 2` reads it and generates 20, `t = 3` reads `d` and generates 21. -/

def exDefs : Label → Option Def
  | 1 => some ⟨.src, [], [], [], false, 0, 10⟩
  | 2 => some ⟨.fn, [1], [1], [20], false, 100, 0⟩
  | 3 => some ⟨.fn, [2], [2], [21], false, 101, 0⟩
  | _ => none

def exTree : Tree := ⟨exDefs, [1, 2, 3]⟩

def exOut : Label → Env → Attrs → List (Label × List (Path × SrcVal)) → Path → Nat :=
  fun l e _ obs g => l + e + g + (obs.map fun o => (o.2.map fun pv => match pv.2 with | .file c => c | _ => 0).sum).sum

def exP : Params := { sum := id, out := exOut }
def exOpts : Opts := ⟨false, false, fun _ => false⟩
def exW0 : World := ⟨fun p => if p = 10 then .file 5 else .missing, fun _ => none, 0, .absent⟩

/-- D8: with the stamp the engine used before the repair (the fingerprint alone), after *edit the source; build
exactly `d`; build the root* the dependent `t` is skipped although `d` executed after it: `t`'s output is stale. -/
theorem C01_partial_build_counterexample :
    let P : Params := { exP with stampRuns := false }
    let w1 := (runBuild P exTree exOpts [1, 2, 3] exW0).w
    let w2 : World := { w1 with files := upd w1.files 10 (.file 6) }
    let w3 := (runBuild P exTree exOpts [1, 2] w2).w
    let b4 := runBuild P exTree exOpts [1, 2, 3] w3
    succeeded b4 3 = true ∧ b4.execs = [] ∧
      b4.w.files 21 ≠ (runBuild P exTree exOpts [1, 2, 3] { w2 with recs := fun _ => none }).w.files 21 := by
  decide +kernel

/-- the repaired engine on the D8 history: the dependent re-runs, the output is the clean build's -/
example :
    let w1 := (runBuild exP exTree exOpts [1, 2, 3] exW0).w
    let w2 : World := { w1 with files := upd w1.files 10 (.file 6) }          -- edit the source
    let w3 := (runBuild exP exTree exOpts [1, 2] w2).w                          -- build exactly `d`
    let b4 := runBuild exP exTree exOpts [1, 2, 3] w3                            -- build the root
    b4.execs = [3] ∧ b4.w.files 21 = (runBuild exP exTree exOpts [1, 2, 3] { w2 with recs := fun _ => none }).w.files 21 := by
  decide +kernel

/-- D9: with a directory sum that ignores the entries' names (as `dirSum` did), renaming a file inside a source
directory is invisible: nothing executes, while a from-scratch build sees another listing. -/
theorem C01_dir_rename_counterexample :
    let P : Params := { exP with sum := fun v => match v with | .dir es => .dir (es.map fun e => (0, e.2)) | v => v,
                                 out := fun l e _ obs g => l + e + g + (obs.map fun o => (o.2.map fun pv =>
                                   match pv.2 with | .file c => c | .dir es => (es.map fun e => 7 * e.1 + e.2).sum | _ => 0).sum).sum }
    let w0 : World := { exW0 with files := fun p => if p = 10 then .dir [(1, 5)] else .missing }
    let w1 := (runBuild P exTree exOpts [1, 2, 3] w0).w
    let w2 : World := { w1 with files := upd w1.files 10 (.dir [(2, 5)]) }     -- rename entry 1 → 2, same content
    let b3 := runBuild P exTree exOpts [1, 2, 3] w2
    succeeded b3 3 = true ∧ b3.execs = [] ∧
      b3.w.files 20 ≠ (runBuild P exTree exOpts [1, 2, 3] { w2 with recs := fun _ => none }).w.files 20 := by
  decide +kernel

/-- D29: `t = 3` reads whatever sources it has (a `glob`, `self.sources`): first the sources `1` and `4`, then — file 11
deleted, same code, same environment — the source `1` alone. -/
def exGlobA : Tree := ⟨fun l => match l with
  | 1 => some ⟨.src, [], [], [], false, 0, 10⟩
  | 4 => some ⟨.src, [], [], [], false, 0, 11⟩
  | 3 => some ⟨.fn, [1, 4], [1, 4], [21], false, 101, 0⟩
  | _ => none, [1, 4, 3]⟩
def exGlobB : Tree := ⟨fun l => match l with
  | 1 => some ⟨.src, [], [], [], false, 0, 10⟩
  | 3 => some ⟨.fn, [1], [1], [21], false, 101, 0⟩
  | _ => none, [1, 3]⟩
def exGlobW0 : World := ⟨fun p => if p = 10 then .file 5 else if p = 11 then .file 7 else .missing, fun _ => none, 0, .absent⟩

/-- D29: before the repair a dependency that went away was not noticed: every remaining dependency is listed
unchanged, so the target is skipped, and its output still reflects the deleted file. -/
theorem C01_removed_dependency_counterexample :
    let P : Params := { exP with depCount := false, listCheck := false }   -- (the D32 repair notices the shorter list as well)
    let w1 := (runBuild P exGlobA exOpts [1, 4, 3] exGlobW0).w
    let w2 : World := { w1 with files := upd w1.files 11 .missing }           -- delete the second source
    let b3 := runBuild P exGlobB exOpts [1, 3] w2
    succeeded b3 3 = true ∧ b3.execs = [] ∧
      b3.w.files 21 ≠ (runBuild P exGlobB exOpts [1, 3] { w2 with recs := fun _ => none }).w.files 21 := by
  decide +kernel

/-- the repaired engine on the D29 history: the record lists one dependency more than the target has, the target
re-runs, the output is the clean build's; and the build after that is quiet again -/
example :
    let w1 := (runBuild exP exGlobA exOpts [1, 4, 3] exGlobW0).w
    let w2 : World := { w1 with files := upd w1.files 11 .missing }
    let b3 := runBuild exP exGlobB exOpts [1, 3] w2
    b3.execs = [3] ∧ b3.w.files 21 = (runBuild exP exGlobB exOpts [1, 3] { w2 with recs := fun _ => none }).w.files 21 ∧
      (runBuild exP exGlobB exOpts [1, 3] b3.w).execs = [] := by
  decide +kernel

/-- D32: the same two sources in the other order (`sources=["b", "a"]` instead of `["a", "b"]`), same code, same
environment: the body reads `self.sources` in order. -/
def exGlobSwapped : Tree := ⟨fun l => match l with
  | 1 => some ⟨.src, [], [], [], false, 0, 10⟩
  | 4 => some ⟨.src, [], [], [], false, 0, 11⟩
  | 3 => some ⟨.fn, [4, 1], [4, 1], [21], false, 101, 0⟩
  | _ => none, [1, 4, 3]⟩
/-- … and with the first source listed twice -/
def exGlobTwice : Tree := ⟨fun l => match l with
  | 1 => some ⟨.src, [], [], [], false, 0, 10⟩
  | 4 => some ⟨.src, [], [], [], false, 0, 11⟩
  | 3 => some ⟨.fn, [1, 4, 1], [1, 4, 1], [21], false, 101, 0⟩
  | _ => none, [1, 4, 3]⟩

/-- an output that depends on the order in which the body is handed its inputs -/
def exOutOrdered : Label → Env → Attrs → List (Label × List (Path × SrcVal)) → Path → Nat :=
  fun l e _ obs g => l + e + g + (obs.foldl (fun acc o => 10 * acc + (o.2.map fun pv => match pv.2 with | .file c => c | _ => 0).sum) 0)

/-- D32: before the repair the order and the multiplicity of the entries of `sources=` / `deps=` were not part of the
up-to-date test — the record keeps the dependencies as a map — although a body sees them (`self.sources`,
`self.dependencies`): after swapping two entries, or repeating one, the target is skipped and its output differs from
a from-scratch build's. -/
theorem C01_reordered_sources_counterexample :
    let P : Params := { sum := id, out := exOutOrdered, listCheck := false }
    let w1 := (runBuild P exGlobA exOpts [1, 4, 3] exGlobW0).w
    let stale := fun (t' : Tree) =>
      let b := runBuild P t' exOpts [1, 4, 3] w1
      succeeded b 3 = true ∧ b.execs = [] ∧
        b.w.files 21 ≠ (runBuild P t' exOpts [1, 4, 3] { w1 with recs := fun _ => none }).w.files 21
    stale exGlobSwapped ∧ stale exGlobTwice := by
  decide +kernel

/-- the repaired engine on the D32 histories: the record remembers other lists than the target has: the target re-runs
(and then holds what its body computes from the lists as they are: `C01_consistent`) -/
example :
    let P : Params := { sum := id, out := exOutOrdered }
    let w1 := (runBuild P exGlobA exOpts [1, 4, 3] exGlobW0).w
    (runBuild P exGlobSwapped exOpts [1, 4, 3] w1).execs = [3] := by
  decide +kernel
example :
    let P : Params := { sum := id, out := exOutOrdered }
    let w1 := (runBuild P exGlobA exOpts [1, 4, 3] exGlobW0).w
    (runBuild P exGlobTwice exOpts [1, 4, 3] w1).execs = [3] := by
  decide +kernel

/-! ## C02 — no spurious rebuilds -/

/-- C02, the skip decision: a target whose record is not marked, whose own `upToDate` test passes, whose every
dependency was visited unchanged and is listed with its present stamp, and whose record lists nothing besides (`hlen`:
as many entries as dependencies — a dependency that went away is a change, D29), and which remembers no other lists
`deps=` / `sources=` / `generates=` than the target has now (`hattrs`, D32), is skipped (no body, no `Evaluating`). -/
theorem C02_no_spurious {P : Params} {t : Tree} {o : Opts} {s : BSt} {l : Label} {d : Def} (hd : t.defs l = some d)
    (hal : o.always = false)
    (hdeps : ∀ y ∈ depsOf t l d, ∃ m, s.memo y = some m ∧ m.ok = true ∧ m.changed = false ∧
      (loadedInfo s.w l d).deps.lookup y = some m.data)
    (hlen : (loadedInfo s.w l d).deps.length = (depsOf t l d).length)
    (hattrs : attrsOK P d (loadedInfo s.w l d) = true)
    (hup : upToDate P s.w d (loadedInfo s.w l d) = true) (hrr : (loadedInfo s.w l d).rerun = false) :
    (visit P t o s l).execs = s.execs ∧ (visit P t o s l).w = s.w ∧ (visit P t o s l).evs = .upToDate l :: s.evs := by
  have hok : DepsOk t s l d := fun y hy => (hdeps y hy).imp fun _ h => ⟨h.1, h.2.1⟩
  have hs : SkipOK P t o s l d :=
    ⟨hal, fun y hy => (hdeps y hy).imp fun _ h => ⟨h.1, h.2.2⟩, by rw [hlen, beq_self_eq_true, Bool.or_true], hattrs, hup, hrr⟩
  rw [visit_skip hd hok hs]
  exact ⟨rfl, rfl, rfl⟩

/-- C02, whole builds: rebuilding an unchanged tree executes nothing. After a real build in which every visited target
succeeded — from ANY earlier state — a second build of any dependency-ordered sub-list, in a fresh process (fresh
memo, fresh load), runs no body, performs no persistent effect of the run phase, and reports every target up to date. -/
theorem C02_rebuild {P : Params} {S : Shape} {t : Tree} {o1 o2 : Opts} (hc : Conforms S t) (hna : NoAlways t)
    (hdry : o1.dry = false) (hal : o2.always = false) (ord ord' : List Label) (hord : RunnerOrder t ord) (w : World)
    (hok : AllOk (runBuild P t o1 ord w) ord) (hsub : ∀ x ∈ ord', x ∈ ord) (hdf : DepsFirst t [] ord') :
    let b2 := runBuild P t o2 ord' (runBuild P t o1 ord w).w
    b2.execs = [] ∧ b2.steps = [] ∧ ∀ e ∈ b2.evs, ∃ l, e = .upToDate l := by
  intro b2
  have si : SInv P t (runBuild P t o1 ord w) :=
    build_settled (o := o1) hc hdry ord (BSt.init (load t w)) (sinv_init P t _) (hord.ordered P o1 _)
  have q := rebuild_quiet (P := P) (o2 := o2) hna hal si ord' [] (BSt.init (load t (runBuild P t o1 ord w).w))
    (fun x hx => hok x (hsub x hx)) (fun x hx => by cases hx) hdf
    ⟨(load_sem t _ 0).2.1, fun l => (load_sem t _ l).1, rfl, rfl, (fun e he => by cases he), (fun y hy => by cases hy)⟩
  exact ⟨q.execs, q.steps, q.evs⟩

/-- C02, what a build can see at all: its events, executions and effects are a function of the tree, the files'
*contents* and the (semantic) records of the labels it visits. Timestamps are not part of the state; temporaries, the
index and the records of labels outside `L` (other packages, other closures) are never read. -/
theorem C02_content_only {P : Params} {t : Tree} {o : Opts} {L : List Label} (ord : List Label)
    (hL : ∀ l ∈ ord, (t.defs l).isSome → l ∈ L) {w w' : World} (h : Agree L w w') :
    (runBuild P t o ord w').evs = (runBuild P t o ord w).evs ∧ (runBuild P t o ord w').execs = (runBuild P t o ord w).execs ∧
    (runBuild P t o ord w').steps = (runBuild P t o ord w).steps :=
  let s := runBuild_sim (P := P) (t := t) (o := o) ord hL h
  ⟨s.evs, s.execs, s.steps⟩

/-- C02, timestamp-only touches: the persisted state has no timestamps, and `fileSum` reads content only (tie
`fileSum_ok`): states that differ in nothing but what the model does not contain build identically. -/
theorem C02_touch {P : Params} {t : Tree} {o : Opts} (ord : List Label) {w w' : World}
    (hf : w'.files = w.files) (hr : w'.recs = w.recs) :
    (runBuild P t o ord w').evs = (runBuild P t o ord w).evs ∧ (runBuild P t o ord w').execs = (runBuild P t o ord w).execs :=
  let h := C02_content_only (P := P) (t := t) (o := o) (L := ord) ord (fun l hl _ => hl) ⟨hf, fun l _ => by rw [hr]⟩
  ⟨h.1, h.2.1⟩

/-- C02, same-content rewrite: writing a file with the bytes it already has changes nothing a build sees. -/
theorem C02_same_content {P : Params} {t : Tree} {o : Opts} (ord : List Label) (w : World) (p : Path) :
    runBuild P t o ord { w with files := upd w.files p (w.files p) } = runBuild P t o ord w := by
  have : upd w.files p (w.files p) = w.files := by funext x; by_cases e : x = p <;> simp [upd, e]
  rw [this]

/-- C02, edits outside the dependency closure: two trees and two states. If the trees agree on the definitions (and
dependency lists, generator link included) of the labels a build visits and of what those read, and the states agree on
the visited labels' records and on the files `F` those labels test, write or read, then the builds are identical —
same events, same executions, same effects. Everything else may differ: other source files, other packages' build
files (other labels' definitions), their records and outputs. -/
theorem C02_outside_closure {P : Params} {t t' : Tree} {o : Opts} {F : Path → Prop} (ord : List Label)
    (hcov : Covers t t' ord F) {w w' : World} (h : Agree2 ord F w w') :
    (runBuild P t' o ord w').evs = (runBuild P t o ord w).evs ∧ (runBuild P t' o ord w').execs = (runBuild P t o ord w).execs ∧
    (runBuild P t' o ord w').steps = (runBuild P t o ord w).steps :=
  let s := runBuild_sim2 (P := P) (o := o) hcov ord (fun _ hl => hl) h
  ⟨s.evs, s.execs, s.steps⟩

/-- `C02_outside_closure` is not vacuous: in the example project, building `d` (order `[1, 2]`) is blind to a new
definition of `t = 3`, to `t`'s record and to `t`'s output file 21. -/
example : Covers exTree ⟨fun l => if l = 3 then some ⟨.fn, [2], [2], [21], false, 999, 0⟩ else exDefs l, [1, 2, 3]⟩ [1, 2]
    (fun p => p = 10 ∨ p = 20) := by
  have two : ∀ {Q : Label → Prop}, Q 1 → Q 2 → ∀ l ∈ [1, 2], Q l := fun h1 h2 l hl => by
    rcases List.mem_cons.mp hl with rfl | hl
    · exact h1
    · rw [List.mem_singleton.mp hl]; exact h2
  refine ⟨two rfl rfl, two ?_ ?_, two ?_ ?_, two ?_ ?_, two ?_ ?_, two ?_ ?_⟩ <;> intro d hd <;> cases hd
  · rfl
  · rfl
  · exact fun _ => Or.inl rfl
  · exact fun h => nomatch h
  · exact fun h => nomatch h
  · exact fun _ g hg => Or.inr (List.mem_singleton.mp hg)
  · exact fun _ h => nomatch h
  · exact fun x hx => by rw [List.mem_singleton.mp hx]; rfl
  · exact fun _ h => nomatch h
  · intro x hx dx hdx
    rw [List.mem_singleton.mp hx] at hdx
    cases hdx
    exact ⟨fun _ => Or.inl rfl, fun h => nomatch h⟩

/-- C02, across process restarts: the label under which a dependency's stamp is persisted is read back unchanged by a
fresh load, whatever bytes the label consists of (file names need not be valid UTF-8, and JSON replaces invalid bytes):
the escaping of `depStamps` is reversible, so the lookup `info.Dependencies[label]` of `Evaluate` finds what the
previous process stored, and two different labels never share a key. (D27: without the escaping the key of a name
that is not valid UTF-8 did not survive, and its consumer re-executed on every build.) -/
theorem C02_dep_keys_roundtrip (s : List KeyItem) (h : ∀ c, KeyItem.ch c ∈ s → c ≠ 0xFFFD) : unescapeKey (escapeKey s) = s :=
  unescapeKey_escapeKey s h

theorem C02_dep_keys_injective {s t : List KeyItem} (hs : ∀ c, KeyItem.ch c ∈ s → c ≠ 0xFFFD) (ht : ∀ c, KeyItem.ch c ∈ t → c ≠ 0xFFFD)
    (h : escapeKey s = escapeKey t) : s = t := escapeKey_injective hs ht h

/-- `caf\xe9.txt` and `caf\xff.txt` (lossy JSON would store both as `caf�.txt`), and a genuine U+FFFD followed by `e9` -/
example : escapeKey [.ch 99, .raw 0xe9] ≠ escapeKey [.ch 99, .raw 0xff] ∧
    unescapeKey (escapeKey [.repl, .ch 101, .ch 57]) = [.repl, .ch 101, .ch 57] ∧
    escapeKey [.raw 0xe9] = [0xFFFD, 101, 57] := by decide

/-! ## C03 — failed and interrupted builds are recoverable -/

/-- C03, loadable: whatever prefix of its effects a build (or load) completed, every record on disk is the complete
old record or a complete record some `saveTargetInfo` installed by `rename` — never a torn one. (`index.json` is
rewritten in place and can be torn: `C03_index_not_needed`.) -/
theorem C03_loadable (P : Params) (t : Tree) (o : Opts) (ord : List Label) (k : Nat) (w : World) (l : Label) :
    (crashBuild P t o ord k w).recs l = (load t w).recs l ∨
    ∃ r, (crashBuild P t o ord k w).recs l = some r ∧ installs (buildSteps P t o (BSt.init (load t w)) ord) l r := by
  rw [crashBuild_eq]
  rcases applySteps_recs (load t w) ((buildSteps P t o (BSt.init (load t w)) ord).take k) l with h | ⟨r, h, s, hs, he⟩
  · exact Or.inl h
  · exact Or.inr ⟨r, h, s, List.mem_of_mem_take hs, he⟩

/-- C03, no false memory: after any history — including builds and loads killed at ANY hook point — every success
record (`rerun = false`, stamp = a fingerprint `e`) was written by a completed run of that target's body: each
generated file is missing or is exactly what that run wrote, which is the body applied to `e`, to the lists the record
remembers (what the run was handed through `self`) and to what the run observed, and what it observed is what the
stamps the record lists stand for. -/
theorem C03_no_false_memory {P : Params} {S : Shape} (hf : Fixed P) {R : Label → Prop} {w : World} (hw : Reach P S R w) :
    ∃ G : Ghost, ∀ l r e, w.recs l = some r → r.rerun = false → r.data = .env e →
      (∀ g ∈ S.gensOf l e, w.files g = .missing ∨ w.files g = .file (G.hist l r.runs g)) ∧
      ∃ a, r.attrs = some a ∧
      (∀ g ∈ S.gensOf l e, G.hist l r.runs g = P.out l e a ((S.readsOf l e a).map fun x => (x, G.obs l r.runs x)) g) ∧
      (∀ x ∈ S.readsOf l e a, SeenOK P S G r x (G.obs l r.runs x)) := by
  obtain ⟨G, di, _⟩ := reach_dinv hf.inj hf.stampRuns hf.listCheck hf.marker hw
  exact ⟨G, fun l r e h1 h2 h3 => (dinv_iff.mp di l r h1).run h2 e h3⟩

/-- C03, convergence: a build killed at hook point `k` — any `k` — followed by a successful build produces exactly
the files a from-scratch build of the tree produces, hence (by `C01_equiv_clean` for the uninterrupted twin) the same
files as the uninterrupted build. -/
theorem C03_converges {P : Params} {S : Shape} {t : Tree} {o oc o' : Opts} (hf : Fixed P) (hc : Conforms S t)
    (hdry : o.dry = false) (hdryc : oc.dry = false) (hdry' : o'.dry = false) (ord : List Label) (hord : RunnerOrder t ord)
    {R : Label → Prop} (w wc : World) (hw : Reach P S R w) (hnr : NotRecreated R t) (k : Nat)
    (hclean : ∀ l, wc.recs l = none) (hsame : ∀ p, Plain t p → wc.files p = w.files p)
    (hokA : AllOk (runBuild P t o ord (crashBuild P t o' ord k w)) ord) (hokB : AllOk (runBuild P t oc ord wc) ord) :
    ∀ x ∈ ord, ∀ d, t.defs x = some d → d.kind = .fn → ∀ g ∈ d.gens,
      (runBuild P t o ord (crashBuild P t o' ord k w)).w.files g = (runBuild P t oc ord wc).w.files g := by
  have hcr : Reach P S R (crashBuild P t o' ord k w) := Reach.crash t o' ord k hw hc hdry' (hord.ordered P o' _) hnr
  exact C01_equiv_clean hf hc hdry hdryc ord hord _ wc hcr hnr hclean
    (fun p hp => by rw [hsame p hp, crashBuild_plain P t o' ord k w p hp]) hokA hokB

/-- C03: `index.json` is rewritten in place, so a crash can tear it — a full load never reads it (and an index-only
load that cannot decode it falls back to a full load): builds from states that differ only in the index are identical. -/
theorem C03_index_not_needed {P : Params} {t : Tree} {o : Opts} (ord : List Label) (w : World) (ix : Index) :
    (runBuild P t o ord { w with index := ix }).evs = (runBuild P t o ord w).evs ∧
    (runBuild P t o ord { w with index := ix }).execs = (runBuild P t o ord w).execs ∧
    gc t true { w with index := .torn } = gc t false w := by
  have h := C02_touch (P := P) (t := t) (o := o) ord (w := w) (w' := { w with index := ix }) rfl rfl
  refine ⟨h.1, h.2, ?_⟩
  -- a collection does not read the index either: the load rewrites it before the sweep, and what the steps of a load
  -- do to the records depends on the records only
  have hr : (load t { w with index := .torn }).recs = (load t w).recs := applySteps_recs_congr _ _ _ rfl
  simp only [gc, gcLive, sweep, hr, (load_sem t _ 0).2.1, (load_sem t _ 0).2.2]
  rfl

/-- D8, crash form: before the repair, a build killed right after the dependency's record was renamed (here: hook
point 13 of the run phase) and before the dependent ran left the dependent skipped forever. -/
theorem C03_crash_counterexample :
    let P : Params := { exP with stampRuns := false, marker := false }
    let w1 := (runBuild P exTree exOpts [1, 2, 3] exW0).w
    let w2 : World := { w1 with files := upd w1.files 10 (.file 6) }
    let w3 := crashBuild P exTree exOpts [1, 2, 3] 13 w2                         -- dies after d's record, before t's body
    let b4 := runBuild P exTree exOpts [1, 2, 3] w3
    succeeded b4 3 = true ∧ b4.execs = [] ∧
      b4.w.files 21 ≠ (runBuild P exTree exOpts [1, 2, 3] { w2 with recs := fun _ => none }).w.files 21 := by
  decide +kernel

/-- D18: without the in-progress marker, *change the code of `d`; die between `d`'s body and its record; revert the
change* leaves `d` skipped with the interrupted run's output (the record from before still matches). -/
theorem C03_crash_in_body_counterexample :
    let P : Params := { exP with marker := false }
    let w1 := (runBuild P exTree exOpts [1, 2, 3] exW0).w
    let t' : Tree := ⟨fun l => if l = 2 then some ⟨.fn, [1], [1], [20], false, 200, 0⟩ else exDefs l, [1, 2, 3]⟩   -- edit d's code
    let w2 := crashBuild P t' exOpts [1, 2, 3] 3 w1                              -- dies after d's body wrote 20
    let b3 := runBuild P exTree exOpts [1, 2, 3] w2                                -- the edit was reverted
    succeeded b3 3 = true ∧ b3.execs = [] ∧
      b3.w.files 20 ≠ (runBuild P exTree exOpts [1, 2, 3] { w2 with recs := fun _ => none }).w.files 20 := by
  decide +kernel

/-- the same history on the repaired engine: `d` is re-run and the outputs are the clean build's -/
example :
    let w1 := (runBuild exP exTree exOpts [1, 2, 3] exW0).w
    let t' : Tree := ⟨fun l => if l = 2 then some ⟨.fn, [1], [1], [20], false, 200, 0⟩ else exDefs l, [1, 2, 3]⟩
    let w2 := crashBuild exP t' exOpts [1, 2, 3] 6 w1
    let b3 := runBuild exP exTree exOpts [1, 2, 3] w2
    w2.files 20 ≠ w1.files 20 ∧ b3.execs = [3, 2] ∧
      b3.w.files 20 = (runBuild exP exTree exOpts [1, 2, 3] { w2 with recs := fun _ => none }).w.files 20 := by
  decide +kernel

/-! ## C13 — a dry run has no effects and predicts the real build -/

/-- C13: a dry run executes no body and performs no persistent effect of the run phase; the state it leaves is the
state the load that precedes every command leaves: same project files, semantically the same records. -/
theorem C13_no_effects (P : Params) (t : Tree) (o : Opts) (hd : o.dry = true) (ord : List Label) (w : World) :
    (runBuild P t o ord w).execs = [] ∧ (runBuild P t o ord w).steps = [] ∧ (runBuild P t o ord w).w = load t w ∧
    (runBuild P t o ord w).w.files = w.files ∧ ∀ l, semRec ((runBuild P t o ord w).w.recs l) = semRec (w.recs l) := by
  obtain ⟨h1, h2, h3⟩ := build_dry P t o hd ord (BSt.init (load t w))
  refine ⟨h3, h2, h1, ?_, ?_⟩
  · unfold runBuild; rw [h1]; exact (load_sem t w 0).2.1
  · intro l; unfold runBuild; rw [h1]; exact (load_sem t w l).1

/-- C13: a dry run never changes what the next build does. -/
theorem C13_next_build_same {P : Params} {t t' : Tree} {o o' : Opts} (hd : o.dry = true) (ord ord' : List Label) (w : World)
    (L : List Label) (hL : ∀ l ∈ ord', (t'.defs l).isSome → l ∈ L) :
    (runBuild P t' o' ord' (runBuild P t o ord w).w).evs = (runBuild P t' o' ord' w).evs ∧
    (runBuild P t' o' ord' (runBuild P t o ord w).w).execs = (runBuild P t' o' ord' w).execs := by
  obtain ⟨_, _, _, hfiles, hrecs⟩ := C13_no_effects P t o hd ord w
  have h := C02_content_only (P := P) (t := t') (o := o') ord' hL (w := w) (w' := (runBuild P t o ord w).w) ⟨hfiles, fun l _ => hrecs l⟩
  exact ⟨h.1, h.2.1⟩

/-- C13, prediction: the dry run and the real build of the same tree from the same state (`evaluating` = the labels with
a `TargetEvaluating` event). Every target the real build attempts is reported by the dry run; when the real build
succeeds the two sets are identical; and a target the dry run reports that the real build did not attempt is one
the real build failed without attempting — a target downstream of the failure. -/
theorem C13_predicts {P : Params} {S : Shape} {t : Tree} {o : Opts} (hc : Conforms S t) (hdry : o.dry = false)
    (ord : List Label) (hord : RunnerOrder t ord) (w : World) :
    let real := runBuild P t o ord w
    let dry := runBuild P t { o with dry := true } ord w
    (∀ l, l ∈ evaluating real → l ∈ evaluating dry) ∧
    (AllOk real ord → ∀ l, l ∈ evaluating dry ↔ l ∈ evaluating real) ∧
    (∀ l, l ∈ evaluating dry → l ∉ evaluating real → ∃ m, real.memo l = some m ∧ m.ok = false) := by
  intro real dry
  have rel : DryRel P S t (load t w) real dry :=
    dry_build hc hdry ord _ _ (dryrel_init P S t (load t w)) (hord.ordered P o _)
  simp only [mem_evaluating]
  refine ⟨rel.sub, fun hok l => ⟨fun hl => ?_, rel.sub l⟩, rel.extra⟩
  -- an extra target has a failed entry in the real build, so it is a member of the order: but those all succeeded
  apply Classical.byContradiction
  intro hn
  obtain ⟨m, hm, hmok⟩ := rel.extra l hl hn
  have hmem : l ∈ ord :=
    (build_memo_dom P t o ord (BSt.init (load t w)) l (by rw [show build P t o _ ord = real from rfl, hm]; simp)).resolve_left
      fun h => h rfl
  obtain ⟨m', hm', hok'⟩ := hok l hmem
  rw [hm] at hm'; cases hm'
  rw [hmok] at hok'; cases hok'

/-- C13, one loaded project, several Runs (library / REPL / watch users; DESIGN §4's fresh-load decision stays for the
history-level theorems above): the flags a Run executes with depend only on ITS options, never on the flags an
earlier Run left on the project. In particular a Run with nil options after a dry run is a real build. -/
theorem C13_options_reset (prev prev' : RunFlags) (o : Option RunFlags) : applyOptions prev o = applyOptions prev' o := by
  cases o <;> rfl

theorem C13_nil_options_real_build (prev : RunFlags) (fails : Label → Bool) :
    (optsOf (applyOptions prev none) fails).dry = false ∧ (optsOf (applyOptions prev none) fails).always = false := ⟨rfl, rfl⟩

/-- non-vacuity: a dry run's flags do not survive -/
example : applyOptions (applyOptions ⟨false, false⟩ (some ⟨true, true⟩)) none = ⟨false, false⟩ := rfl

/-! ## C14 — garbage collection never changes build outcomes -/

/-- C14: `targetInfoPath` is injective on the labels a project holds records for (kind `""` or a kind not spelled
`target`; a non-empty name without `/`), with the model of `url.PathEscape` that the stream `build.path` compares
with the real function: distinct live labels never share a record file. -/
theorem C14_path_injective {l₁ l₂ : LabelS} (h₁ : Storable l₁) (h₂ : Storable l₂)
    (h : targetInfoPath l₁ = targetInfoPath l₂) : l₁ = l₂ := targetInfoPath_injective h₁ h₂ h

/-- D22 (regression witness): before the repair, `dawn gc` after an index-only load kept the labels of the *index*. With
an index that predates the re-creation of `d = 2` the record of the existing target `d` was collected. -/
theorem C14_stale_index_counterexample :
    let w1 := (runBuild exP exTree exOpts [1, 2, 3] exW0).w
    let stale : World := { w1 with index := .good [1, 3] }                 -- the last full load saw a tree without `d`
    (gcOld exTree true stale).recs 2 = none ∧ w1.recs 2 ≠ none ∧ 2 ∈ exTree.labels ∧
    semRec ((gc exTree true stale).recs 2) = semRec (w1.recs 2) := by
  decide +kernel

/-- C14: the complete persisted record of every label that exists when the collection runs is kept -/
theorem C14_keeps_live (t : Tree) (pi : Bool) (w : World) (l : Label) (hl : l ∈ gcLive t pi w) :
    semRec ((gc t pi w).recs l) = semRec (w.recs l) := (agree_gc t pi w).recs l hl

/-- C14: the records of labels that no longer exist, and stray temporaries, are removed -/
theorem C14_removes_dead_and_temps (t : Tree) (pi : Bool) (w : World) :
    (gc t pi w).temps = 0 ∧ ∀ l, l ∉ gcLive t pi w → (gc t pi w).recs l = none := by
  unfold gc
  exact ⟨rfl, fun l hl => sweep_recs_dead _ _ l hl⟩

/-- C14: nothing outside the build-state directory changes, and the index is still there -/
theorem C14_confined (t : Tree) (pi : Bool) (w : World) :
    (gc t pi w).files = w.files ∧ (w.index ≠ .absent → (gc t pi w).index ≠ .absent) := by
  refine ⟨(agree_gc t pi w).files, ?_⟩
  unfold gc
  intro _; simp [sweep, (load_sem t w 0).2.2]

/-- C14: the builds that follow a collection execute exactly what they would have executed without it (events,
executions, effects), for every build whose defined labels existed for the collection — i.e. histories that do not
re-create a collected label. -/
theorem C14_transparent {P : Params} {t t' : Tree} {o : Opts} (pi : Bool) (ord : List Label) (w : World)
    (hlive : ∀ l ∈ ord, (t'.defs l).isSome → l ∈ gcLive t pi w) :
    (runBuild P t' o ord (gc t pi w)).evs = (runBuild P t' o ord w).evs ∧
    (runBuild P t' o ord (gc t pi w)).execs = (runBuild P t' o ord w).execs ∧
    (runBuild P t' o ord (gc t pi w)).steps = (runBuild P t' o ord w).steps ∧
    Agree (gcLive t pi w) (runBuild P t' o ord w).w (runBuild P t' o ord (gc t pi w)).w := by
  have s := runBuild_sim (P := P) (t := t') (o := o) ord hlive (agree_gc t pi w)
  exact ⟨s.evs, s.execs, s.steps, s.agree⟩

/-! ## non-vacuity: the hypotheses hold for a concrete project -/

def exShape : Shape where
  kindOf := fun l => if l = 1 then .src else .fn
  pathOf := fun _ => 10
  gensOf := fun l _ => if l = 2 then [20] else if l = 3 then [21] else []
  -- `d` reads the source it names in its code; `t` reads whatever it is handed (`self.dependencies`, in order)
  readsOf := fun l _ a => if l = 2 then [1] else if l = 3 then a.1 else []
  owner := fun p => if p = 20 then some 2 else if p = 21 then some 3 else none
  owned := by
    intro l e g h
    by_cases h2 : l = 2
    · subst h2; simp at h; simp [h]
    · by_cases h3 : l = 3
      · subst h3; simp at h; simp [h]
      · simp [h2, h3] at h
  gensNodup := by
    intro l e
    by_cases h2 : l = 2
    · simp [h2]
    · by_cases h3 : l = 3 <;> simp [h2, h3]

theorem exDefs_forall {Q : Label → Def → Prop} (h1 : Q 1 ⟨.src, [], [], [], false, 0, 10⟩)
    (h2 : Q 2 ⟨.fn, [1], [1], [20], false, 100, 0⟩) (h3 : Q 3 ⟨.fn, [2], [2], [21], false, 101, 0⟩) :
    ∀ l d, exDefs l = some d → Q l d := by
  intro l d h
  unfold exDefs at h
  split at h <;> cases h <;> assumption

theorem exConforms : Conforms exShape exTree where
  kind := exDefs_forall rfl rfl rfl
  path := exDefs_forall (fun _ => rfl) (fun h => nomatch h) (fun h => nomatch h)
  gens := exDefs_forall (fun h => nomatch h) (fun _ => rfl) (fun _ => rfl)
  reads := exDefs_forall (fun h => nomatch h) (fun _ => rfl) (fun _ => rfl)
  readsDeps := exDefs_forall (fun _ _ h => nomatch h) (fun _ x hx => by rw [List.mem_singleton.mp hx]; decide)
    (fun _ x hx => by rw [List.mem_singleton.mp hx]; decide)
  link := exDefs_forall (fun _ l ho _ => nomatch ho) (fun h => nomatch h) (fun h => nomatch h)

theorem exOrder : RunnerOrder exTree [1, 2, 3] := ⟨by decide, sorted_of_sortedB exTree _ _ (by decide)⟩

theorem exFixed : Fixed exP := ⟨rfl, rfl, rfl, sumInj_id exOut⟩

/-- a reachable state with real content: build, edit the source, build only `d`, a build killed at hook point 9, a collection -/
theorem exReach :
    let w1 := (runBuild exP exTree exOpts [1, 2, 3] exW0).w
    let w2 : World := { w1 with files := upd w1.files 10 (.file 6) }
    let w3 := (runBuild exP exTree exOpts [1, 2] w2).w
    Reach exP exShape (fun x => False ∨ x ∉ exTree.labels) (gc exTree true (crashBuild exP exTree exOpts [1, 2, 3] 9 w3)) := by
  intro w1 w2 w3
  have hno : ∀ x, False → exTree.defs x = none := fun _ h => absurd h id
  have h0 : Reach exP exShape (fun _ => False) exW0 := Reach.init _ (fun _ => rfl)
  have h1 : Reach exP exShape (fun _ => False) w1 := Reach.build exTree exOpts [1, 2, 3] h0 exConforms rfl (exOrder.ordered _ _ _) hno
  have h2 : Reach exP exShape (fun _ => False) w2 := Reach.edit h1 ⟨rfl, fun p => by
    by_cases e : p = 10
    · right; right; subst e; rfl
    · left; simp [w2, upd, e]⟩
  have ho12 : RunnerOrder exTree [1, 2] := ⟨by decide, sorted_of_sortedB exTree _ _ (by decide)⟩
  have h3 : Reach exP exShape (fun _ => False) w3 := Reach.build exTree exOpts [1, 2] h2 exConforms rfl (ho12.ordered _ _ _) hno
  exact Reach.gc exTree true (Reach.crash exTree exOpts [1, 2, 3] 9 h3 exConforms rfl (exOrder.ordered _ _ _) hno)

/-- after that history (collection included) the example tree still defines no retired label -/
example : NotRecreated (fun x => False ∨ x ∉ exTree.labels) exTree := by
  intro x hx
  cases hd : exTree.defs x with
  | none => rfl
  | some d =>
    refine absurd ?_ (hx.resolve_left id)
    exact exDefs_forall (Q := fun l _ => l ∈ exTree.labels) (by decide) (by decide) (by decide) x d hd

/-- the hypotheses of `C01_equiv_clean` / `C03_converges` are met by that history, and the build after it succeeds -/
example :
    let w1 := (runBuild exP exTree exOpts [1, 2, 3] exW0).w
    let w2 : World := { w1 with files := upd w1.files 10 (.file 6) }
    let w3 := (runBuild exP exTree exOpts [1, 2] w2).w
    let w4 := crashBuild exP exTree exOpts [1, 2, 3] 9 w3
    let b := runBuild exP exTree exOpts [1, 2, 3] w4
    succeeded b 3 = true ∧ b.execs = [3] ∧ w4.temps = 1 := by decide +kernel

/-- `//a/b:t1` and `source://:s.t` -/
example : Storable ⟨[], [97, 47, 98], [116, 49]⟩ ∧ Storable ⟨[115, 111, 117, 114, 99, 101], [], [115, 46, 116]⟩ := by
  constructor <;> constructor <;> decide

example : NoAlways exTree := exDefs_forall rfl rfl rfl

example : DepsFirst exTree [] [1, 2, 3] := by
  refine ⟨?_, ?_, ?_, trivial⟩ <;> intro d h <;> cases h <;> decide

end Dawn.Build
